import AriVerif.Codec
/-! the pieces of the text codec: `unq` by the shape of its input, the byte table of `quote_plus`, UTF-8 -/
namespace Ari

theorem unq_nil : unq [] = [] := by rw [unq.eq_def]

theorem unq_plus (rest : List Char) : unq ('+' :: rest) = 32 :: unq rest := by
  rw [unq.eq_def]; simp

theorem unq_lit (c : Char) (rest : List Char) (h1 : c ≠ '+') (h2 : c ≠ '%') :
    unq (c :: rest) = String.utf8EncodeChar c ++ unq rest := by
  rw [unq.eq_def]; simp [h1, h2]

theorem unq_pct (h1 h2 : Char) (a b : Nat) (rest : List Char)
    (ha : hexVal? h1 = some a) (hb : hexVal? h2 = some b) :
    unq ('%' :: h1 :: h2 :: rest) = UInt8.ofNat (a * 16 + b) :: unq rest := by
  rw [unq.eq_def]; simp [ha, hb]

theorem unreserved_ascii : ∀ n, n < 256 → unreserved (UInt8.ofNat n) = true →
    n < 128 ∧ (Char.ofNat n).toNat = n ∧ Char.ofNat n ≠ '+' ∧ Char.ofNat n ≠ '%' := by decide +kernel

theorem hexVal_hexU : ∀ n, n < 16 → hexVal? (hexU n) = some n := by decide

theorem encByte_table : ∀ n, n < 256 →
    encByte (UInt8.ofNat n) ≠ [] ∧ (encByte (UInt8.ofNat n)).all tokenChar = true := by decide +kernel

theorem encByte_tokenChar (b : UInt8) : ∀ c ∈ encByte b, tokenChar c = true := by
  have := (encByte_table b.toNat b.toNat_lt).2
  rwa [UInt8.ofNat_toNat, List.all_eq_true] at this

theorem encByte_ne_nil (b : UInt8) : encByte b ≠ [] := by
  have := (encByte_table b.toNat b.toNat_lt).1
  rwa [UInt8.ofNat_toNat] at this

theorem quotePlus_tokenChar (bs : Bytes) : ∀ c ∈ quotePlus bs, tokenChar c = true := by
  intro c hc
  simp only [quotePlus, List.mem_flatMap] at hc
  obtain ⟨b, _, hcb⟩ := hc
  exact encByte_tokenChar b c hcb

theorem quotePlus_ne_nil (bs : Bytes) (h : bs ≠ []) : quotePlus bs ≠ [] := by
  cases bs with
  | nil => exact absurd rfl h
  | cons b bs =>
    intro hh
    exact encByte_ne_nil b (List.append_eq_nil_iff.mp hh).1

theorem fromUtf8_utf8 (s : String) : fromUtf8? (utf8 s) = some s := by
  unfold fromUtf8? utf8
  unfold String.fromUTF8?
  rw [dif_pos s.isValidUTF8]
  rfl

theorem utf8_eq_nil {s : String} (h : utf8 s = []) : s = "" := by
  have h1 := fromUtf8_utf8 s
  rw [h] at h1
  exact (Option.some.inj h1).symm

end Ari
