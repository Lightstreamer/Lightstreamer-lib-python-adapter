import AriVerif.Sender
/-!
The virtual-time writer model (`AriVerif.Sender`): each record written is related to the wait that preceded it,
the wait being the (time, nextK) of the record before (`Chain`); `fireUntil`, `onEvent` and `runEvents` each
continue the run in this sense (`Continues`), with `AfterWait` as the relation.
-/
namespace Ari

def lastT : Nat → List Written → Nat
  | t, [] => t
  | _, w :: l => lastT w.time l

def lastK : Nat → List Written → Nat
  | k, [] => k
  | _, w :: l => lastK w.nextK l

def Chain (P : Nat → Nat → Written → Prop) : Nat → Nat → List Written → Prop
  | _, _, [] => True
  | ws, wk, w :: l => P ws wk w ∧ Chain P w.time w.nextK l

theorem lastT_append (t : Nat) (l₁ l₂ : List Written) : lastT t (l₁ ++ l₂) = lastT (lastT t l₁) l₂ := by
  induction l₁ generalizing t with
  | nil => rfl
  | cons w l ih => simp [lastT, ih]

theorem lastK_append (k : Nat) (l₁ l₂ : List Written) : lastK k (l₁ ++ l₂) = lastK (lastK k l₁) l₂ := by
  induction l₁ generalizing k with
  | nil => rfl
  | cons w l ih => simp [lastK, ih]

theorem chain_append {P : Nat → Nat → Written → Prop} (ws wk : Nat) (l₁ l₂ : List Written) :
    Chain P ws wk (l₁ ++ l₂) ↔ Chain P ws wk l₁ ∧ Chain P (lastT ws l₁) (lastK wk l₁) l₂ := by
  induction l₁ generalizing ws wk with
  | nil => simp [Chain, lastT, lastK]
  | cons w l ih => simp [Chain, lastT, lastK, ih, and_assoc]

theorem chain_mono {P Q : Nat → Nat → Written → Prop} (h : ∀ ws wk w, P ws wk w → Q ws wk w)
    (ws wk : Nat) (l : List Written) : Chain P ws wk l → Chain Q ws wk l := by
  induction l generalizing ws wk with
  | nil => intro _; trivial
  | cons w l ih => intro hc; exact ⟨h _ _ _ hc.1, ih _ _ hc.2⟩

theorem chain_mem {P : Nat → Nat → Written → Prop} (ws wk : Nat) (l : List Written)
    (hc : Chain P ws wk l) : ∀ w ∈ l, ∃ ws' wk', P ws' wk' w := by
  induction l generalizing ws wk with
  | nil => intro w hw; cases hw
  | cons a l ih =>
    intro w hw
    rcases List.mem_cons.mp hw with rfl | hw
    · exact ⟨_, _, hc.1⟩
    · exact ih _ _ hc.2 w hw

theorem chain_consec {P : Nat → Nat → Written → Prop} {ws wk : Nat} {l : List Written} {a b : Written}
    (hc : Chain P ws wk l) (h : ∃ pre post, l = pre ++ a :: b :: post) : P a.time a.nextK b := by
  obtain ⟨pre, post, rfl⟩ := h
  exact ((chain_append ws wk pre (a :: b :: post)).mp hc).2.2.1

/-- `r` (a state and the records written on the way to it) continues the run from `s`: the records chain on
    from the wait `s` is in, and the wait `r.1` is in is the one begun at the last of them. -/
def Continues (P : Nat → Nat → Written → Prop) (s : SState) (r : SState × List Written) : Prop :=
  Chain P s.ws s.wk r.2 ∧ r.1.ws = lastT s.ws r.2 ∧ r.1.wk = lastK s.wk r.2

theorem Continues.refl (P : Nat → Nat → Written → Prop) (s : SState) : Continues P s (s, []) :=
  ⟨trivial, rfl, rfl⟩

theorem Continues.trans {P : Nat → Nat → Written → Prop} {s : SState} {r₁ r₂ : SState × List Written}
    (h₁ : Continues P s r₁) (h₂ : Continues P r₁.1 r₂) : Continues P s (r₂.1, r₁.2 ++ r₂.2) := by
  obtain ⟨chain₁, ws₁, wk₁⟩ := h₁
  obtain ⟨chain₂, ws₂, wk₂⟩ := h₂
  rw [ws₁] at chain₂ ws₂
  rw [wk₁] at chain₂ wk₂
  exact ⟨(chain_append _ _ _ _).mpr ⟨chain₁, chain₂⟩, by rw [lastT_append]; exact ws₂,
    by rw [lastK_append]; exact wk₂⟩

theorem Continues.mono {P Q : Nat → Nat → Written → Prop} (h : ∀ ws wk w, P ws wk w → Q ws wk w) {s : SState}
    {r : SState × List Written} (hr : Continues P s r) : Continues Q s r :=
  ⟨chain_mono h _ _ _ hr.1, hr.2⟩

theorem fireUntil_zero (s : SState) (te : Nat) (incl : Bool) : fireUntil 0 s te incl = (s, []) := rfl

theorem fireUntil_succ (fuel : Nat) (s : SState) (te : Nat) (incl : Bool) :
    fireUntil (fuel + 1) s te incl =
      if s.stopped = true ∨ s.wk = 0 then (s, []) else
      if s.ws + s.wk < te ∨ (incl = true ∧ s.ws + s.wk = te) then
        ((fireUntil fuel { s with ws := s.ws + s.wk, wk := s.k } te incl).1,
          ⟨s.ws + s.wk, "KEEPALIVE", .timeout s.ws s.wk, s.k⟩ ::
            (fireUntil fuel { s with ws := s.ws + s.wk, wk := s.k } te incl).2)
      else (s, []) := by
  rfl

theorem fireUntil_idle (fuel : Nat) (s : SState) (te : Nat) (incl : Bool) (h : s.stopped = true ∨ s.wk = 0) :
    fireUntil fuel s te incl = (s, []) := by
  cases fuel with
  | zero => rfl
  | succ f => rw [fireUntil_succ, if_pos h]

/-- what a keepalive written on a timeout looks like. -/
def PFire (ws wk : Nat) (w : Written) : Prop :=
  w.cause = .timeout ws wk ∧ w.time = ws + wk ∧ 0 < wk ∧ w.line = "KEEPALIVE"

def Due (ws wk te : Nat) (incl : Bool) : Prop := ws + wk < te ∨ (incl = true ∧ ws + wk = te)

/-- Every firing moves the start of the wait forward by a positive interval, so `te - s.ws + 1` firings suffice
    (the fourth conjunct): the callers give `te + 1`. -/
theorem fireUntil_spec (fuel : Nat) (s : SState) (te : Nat) (incl : Bool) :
    Continues PFire s (fireUntil fuel s te incl) ∧
    (fireUntil fuel s te incl).1.stopped = s.stopped ∧
    (s.ws ≤ te → (fireUntil fuel s te incl).1.ws ≤ te) ∧
    (te < fuel + s.ws → (fireUntil fuel s te incl).1.stopped = false →
      (fireUntil fuel s te incl).1.wk = 0 ∨
        ¬ Due (fireUntil fuel s te incl).1.ws (fireUntil fuel s te incl).1.wk te incl) := by
  induction fuel generalizing s with
  | zero =>
    refine ⟨.refl _ s, rfl, fun h => h, fun h _ => .inr ?_⟩
    show ¬ Due s.ws s.wk te incl
    unfold Due
    omega
  | succ f ih =>
    rw [fireUntil_succ]
    by_cases hidle : s.stopped = true ∨ s.wk = 0
    · rw [if_pos hidle]
      refine ⟨.refl _ s, rfl, fun h => h, fun _ hrun => ?_⟩
      rcases hidle with hstop | hwk
      · rw [hstop] at hrun; cases hrun
      · exact .inl hwk
    · rw [if_neg hidle]
      by_cases hdue : s.ws + s.wk < te ∨ (incl = true ∧ s.ws + s.wk = te)
      · rw [if_pos hdue]
        have hwk : 0 < s.wk := Nat.pos_of_ne_zero fun h => hidle (.inr h)
        obtain ⟨⟨chain, ws', wk'⟩, stopped', le', done'⟩ := ih { s with ws := s.ws + s.wk, wk := s.k }
        refine ⟨⟨⟨⟨rfl, rfl, hwk, rfl⟩, chain⟩, ws', wk'⟩, stopped', fun _ => le' ?_, fun hfuel => done' ?_⟩
        · show s.ws + s.wk ≤ te; omega
        · show te < f + (s.ws + s.wk); omega
      · rw [if_neg hdue]
        exact ⟨.refl _ s, rfl, fun h => h, fun _ _ => .inr hdue⟩

/-- what every record `w` of a run satisfies, given the wait (begun at `ws` with interval `wk`, 0 = blocking)
    that preceded it. -/
structure AfterWait (ws wk : Nat) (w : Written) : Prop where
  /-- a keepalive written on a timeout names that wait and comes exactly at its end -/
  timeout : ∀ ws' d, w.cause = .timeout ws' d →
    ws' = ws ∧ d = wk ∧ w.time = ws' + d ∧ 0 < d ∧ w.line = "KEEPALIVE"
  /-- no silence longer than the interval -/
  gap : 0 < wk → w.time ≤ ws + wk
  mono : ws ≤ w.time

theorem PFire.afterWait (ws wk : Nat) (w : Written) (h : PFire ws wk w) : AfterWait ws wk w := by
  obtain ⟨hcause, htime, hpos, hline⟩ := h
  refine ⟨fun ws' d hc => ?_, fun _ => by omega, by omega⟩
  rw [hcause] at hc
  injection hc with e1 e2
  subst e1; subst e2
  exact ⟨rfl, rfl, htime, hpos, hline⟩

theorem onEvent_spec (tie : Bool) (s : SState) (te : Nat) (a : SAct) (hws : s.ws ≤ te) :
    Continues AfterWait s (onEvent tie s te a) ∧ (onEvent tie s te a).1.ws ≤ te := by
  obtain ⟨fired, -, le, done⟩ := fireUntil_spec (te + 1) s te tie
  have fired := fired.mono PFire.afterWait
  have le := le hws
  have done := done (by omega)
  unfold onEvent
  generalize fireUntil (te + 1) s te tie = r at *
  obtain ⟨s1, o1⟩ := r
  simp only at *
  by_cases hst : s1.stopped = true
  · rw [if_pos hst]; exact ⟨fired, le⟩
  · rw [if_neg hst]
    -- a line written at `te` for a reason other than a timeout continues the run from `s1`: the wait `s1` is
    -- in is not overdue, so `te` is within its interval
    have key : ∀ (m : String) (c : Cause), (∀ ws d, c ≠ .timeout ws d) →
        Continues AfterWait s ({ s1 with ws := te, wk := s1.k }, o1 ++ [⟨te, m, c, s1.k⟩]) := by
      intro m c hc
      refine fired.trans (r₂ := (_, [_])) ⟨⟨⟨fun ws' d h => absurd h (hc ws' d), ?_, le⟩, trivial⟩, rfl, rfl⟩
      intro (hpos : 0 < s1.wk)
      show te ≤ s1.ws + s1.wk
      rcases done (Bool.eq_false_iff.mpr hst) with h | h
      · omega
      · unfold Due at h
        omega
    cases a with
    | setK k => exact ⟨fired, le⟩
    | put m => exact ⟨key m .msg (fun _ _ h => by cases h), Nat.le_refl _⟩
    | pill => exact ⟨key _ .pill (fun _ _ h => by cases h), Nat.le_refl _⟩
    | stop => exact ⟨fired, le⟩

theorem runEvents_nil (tie : Bool) (s : SState) : runEvents tie s [] = (s, []) := rfl

theorem runEvents_cons (tie : Bool) (s : SState) (te : Nat) (a : SAct) (rest : List (Nat × SAct)) :
    runEvents tie s ((te, a) :: rest) =
      ((runEvents tie (onEvent tie s te a).1 rest).1,
        (onEvent tie s te a).2 ++ (runEvents tie (onEvent tie s te a).1 rest).2) := rfl

theorem fireUntil_filter_msg (fuel : Nat) (s : SState) (te : Nat) (incl : Bool) :
    (fireUntil fuel s te incl).2.filter (fun w => w.cause == .msg) = [] := by
  rw [List.filter_eq_nil_iff]
  intro w hw
  obtain ⟨ws, wk, h⟩ := chain_mem _ _ _ (fireUntil_spec fuel s te incl).1.1 w hw
  simp [h.1]

theorem onEvent_msgs (tie : Bool) (s : SState) (te : Nat) (a : SAct)
    (hs : s.stopped = false) (ha : a ≠ .stop) :
    ((onEvent tie s te a).2.filter (fun w => w.cause == .msg)).map (fun w => (w.time, w.line)) =
      (match a with | .put m => [(te, m)] | _ => []) ∧
    (onEvent tie s te a).1.stopped = false := by
  have hf := fireUntil_filter_msg (te + 1) s te tie
  have hst : (fireUntil (te + 1) s te tie).1.stopped = false := by
    rw [(fireUntil_spec (te + 1) s te tie).2.1]; exact hs
  unfold onEvent
  cases a with
  | setK k => simp [hf, hst]
  | put m => simp [hf, hst]
  | pill => simp [hf, hst]
  | stop => exact absurd rfl ha

theorem runEvents_msgs (tie : Bool) (s : SState) (evs : List (Nat × SAct))
    (hs : s.stopped = false) (hns : ∀ e ∈ evs, e.2 ≠ .stop) :
    ((runEvents tie s evs).2.filter (fun w => w.cause == .msg)).map (fun w => (w.time, w.line)) =
      evs.filterMap (fun e => match e.2 with | .put m => some (e.1, m) | _ => none) ∧
    (runEvents tie s evs).1.stopped = false := by
  induction evs generalizing s with
  | nil => exact ⟨rfl, hs⟩
  | cons e rest ih =>
    obtain ⟨te, a⟩ := e
    have ha : a ≠ .stop := hns (te, a) (List.mem_cons_self ..)
    obtain ⟨h1, h2⟩ := onEvent_msgs tie s te a hs ha
    obtain ⟨h3, h4⟩ := ih (onEvent tie s te a).1 h2 (fun e he => hns e (List.mem_cons_of_mem _ he))
    rw [runEvents_cons]
    refine ⟨?_, h4⟩
    simp only [List.filter_append, List.map_append, h1, h3]
    cases a with
    | setK k => simp
    | put m => simp
    | pill => simp
    | stop => exact absurd rfl ha

theorem onEvent_disabled (tie : Bool) (s : SState) (te : Nat) (a : SAct)
    (hk : s.k = 0) (hwk : s.wk = 0) (ha : ∀ k, a = .setK k → k = 0) :
    (onEvent tie s te a).1.k = 0 ∧ (onEvent tie s te a).1.wk = 0 ∧
    ∀ w ∈ (onEvent tie s te a).2, ∀ ws d, w.cause ≠ .timeout ws d := by
  unfold onEvent
  rw [fireUntil_idle _ _ _ _ (Or.inr hwk)]
  simp only
  by_cases hst : s.stopped = true
  · rw [if_pos hst]; exact ⟨hk, hwk, fun w hw => by cases hw⟩
  · rw [if_neg hst]
    cases a with
    | setK k => exact ⟨ha k rfl, hwk, fun w hw => by cases hw⟩
    | put m =>
      refine ⟨hk, hk, ?_⟩
      intro w hw ws d h
      simp at hw; subst hw; cases h
    | pill =>
      refine ⟨hk, hk, ?_⟩
      intro w hw ws d h
      simp at hw; subst hw; cases h
    | stop => exact ⟨hk, hwk, fun w hw => by cases hw⟩

theorem runEvents_disabled (tie : Bool) (s : SState) (evs : List (Nat × SAct))
    (hk : s.k = 0) (hwk : s.wk = 0) (ha : ∀ e ∈ evs, ∀ k, e.2 = .setK k → k = 0) :
    (runEvents tie s evs).1.k = 0 ∧ (runEvents tie s evs).1.wk = 0 ∧
    ∀ w ∈ (runEvents tie s evs).2, ∀ ws d, w.cause ≠ .timeout ws d := by
  induction evs generalizing s with
  | nil => exact ⟨hk, hwk, fun w hw => by cases hw⟩
  | cons e rest ih =>
    obtain ⟨te, a⟩ := e
    obtain ⟨h1, h2, h3⟩ := onEvent_disabled tie s te a hk hwk (ha (te, a) (List.mem_cons_self ..))
    obtain ⟨h4, h5, h6⟩ := ih (onEvent tie s te a).1 h1 h2 (fun e he => ha e (List.mem_cons_of_mem _ he))
    rw [runEvents_cons]
    refine ⟨h4, h5, ?_⟩
    intro w hw
    rcases List.mem_append.mp hw with hw | hw
    · exact h3 w hw
    · exact h6 w hw

theorem senderRun_eq (tie : Bool) (k0 : Nat) (evs : List (Nat × SAct)) (hz : Nat) :
    senderRun tie k0 evs hz =
      (runEvents tie { k := k0, ws := 0, wk := k0 } evs).2 ++
        (fireUntil (hz + 1) (runEvents tie { k := k0, ws := 0, wk := k0 } evs).1 hz true).2 := rfl

def Ordered : Nat → List (Nat × SAct) → Nat → Prop
  | lo, [], hz => lo ≤ hz
  | lo, (t, _) :: rest, hz => lo ≤ t ∧ Ordered t rest hz

theorem runEvents_spec (tie : Bool) (s : SState) (lo : Nat) (evs : List (Nat × SAct)) (hz : Nat)
    (hord : Ordered lo evs hz) (hws : s.ws ≤ lo) :
    Continues AfterWait s (runEvents tie s evs) := by
  induction evs generalizing s lo with
  | nil => exact .refl _ s
  | cons e rest ih =>
    obtain ⟨te, a⟩ := e
    obtain ⟨hlo, hord'⟩ := hord
    obtain ⟨first, le⟩ := onEvent_spec tie s te a (Nat.le_trans hws hlo)
    rw [runEvents_cons]
    exact first.trans (ih (onEvent tie s te a).1 te hord' le)

theorem senderRun_spec (tie : Bool) (k0 : Nat) (evs : List (Nat × SAct)) (hz : Nat) (h : Ordered 0 evs hz) :
    Chain AfterWait 0 k0 (senderRun tie k0 evs hz) ∧
    ((runEvents tie { k := k0, ws := 0, wk := k0 } evs).1.stopped = false →
      lastK k0 (senderRun tie k0 evs hz) = 0 ∨
        hz < lastT 0 (senderRun tie k0 evs hz) + lastK k0 (senderRun tie k0 evs hz)) := by
  have events := runEvents_spec tie { k := k0, ws := 0, wk := k0 } 0 evs hz h (Nat.le_refl _)
  obtain ⟨idle, stopped, -, done⟩ :=
    fireUntil_spec (hz + 1) (runEvents tie { k := k0, ws := 0, wk := k0 } evs).1 hz true
  obtain ⟨chain, hT, hK⟩ := events.trans (idle.mono PFire.afterWait)
  simp only at hT hK
  rw [senderRun_eq]
  refine ⟨chain, fun hrun => ?_⟩
  rw [← hK]
  rcases done (by omega) (by rw [stopped]; exact hrun) with h | h
  · exact .inl h
  · right; simp only [Due, true_and] at h; omega

end Ari
