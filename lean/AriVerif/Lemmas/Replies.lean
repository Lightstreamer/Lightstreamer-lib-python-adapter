import AriVerif.Spec.Reply
import AriVerif.Lemmas.Wire
/-! helper lemmas about the writers (C07, and C14 through it): their lines as `joinBar` of tokens, `mapM`, base64 -/
namespace Ari

/-- the left side is `join(method, 'S|') + '|S|'.join(parameters)` of the names writers (`protocol.py`,
    `metadata_protocol.py`). -/
theorem joinBar_S (m : String) (toks : List String) (hne : toks ≠ []) :
    m ++ "|S|" ++ String.intercalate "|S|" toks = joinBar (m :: toks.flatMap fun t => ["S", t]) := by
  have hS : ("|S|" : String) = "|" ++ "S" ++ "|" := by decide
  induction toks generalizing m with
  | nil => exact absurd rfl hne
  | cons t toks ih =>
    cases toks with
    | nil =>
      rw [String.intercalate_singleton, hS]
      simp only [List.flatMap_cons, List.flatMap_nil, List.append_nil, joinBar_cons_cons, joinBar_singleton,
        String.append_assoc]
    | cons t' toks =>
      have := ih t (by simp)
      simp only [List.flatMap_cons, List.cons_append, List.nil_append] at this ⊢
      rw [String.intercalate_cons_cons, joinBar_cons_cons, joinBar_cons_cons, ← this, hS]
      simp only [String.append_assoc]

theorem joinBar_map_joinBar (tss : List (List String)) (h : ∀ ts ∈ tss, ts ≠ []) :
    joinBar (tss.map joinBar) = joinBar tss.flatten := by
  induction tss with
  | nil => rfl
  | cons ts tss ih =>
    cases tss with
    | nil => simp [joinBar_singleton]
    | cons ts' rest =>
      have ih' := ih (fun u hu => h u (List.mem_cons_of_mem _ hu))
      have h' := h ts' (by simp)
      rw [List.map_cons, List.map_cons, joinBar_cons_cons, ← List.map_cons, ih',
        List.flatten_cons (l := ts),
        joinBar_append _ _ (h ts (List.mem_cons_self ..)) (by simp [h'])]

theorem joinBar_line {α} (hd : List String) (xs : List α) (f : α → List String) (hhd : hd ≠ [])
    (hne : xs ≠ []) (hf : ∀ x ∈ xs, f x ≠ []) :
    joinBar hd ++ "|" ++ joinBar (xs.map fun x => joinBar (f x)) = joinBar (hd ++ xs.flatMap f) := by
  have h1 : (xs.map fun x => joinBar (f x)) = (xs.map f).map joinBar := by simp
  rw [h1, joinBar_map_joinBar, joinBar_append _ _ hhd, List.flatMap_def]
  · cases xs with
    | nil => exact absurd rfl hne
    | cons x xs =>
      have := hf x (List.mem_cons_self ..)
      simp [this]
  · intro ts hts
    simp only [List.mem_map] at hts
    obtain ⟨x, hx, rfl⟩ := hts
    exact hf x hx

theorem length_flatMap_const {α β} (f : α → List β) (n : Nat) (xs : List α) (h : ∀ x, (f x).length = n) :
    (xs.flatMap f).length = n * xs.length := by
  induction xs with
  | nil => rfl
  | cons x xs ih => rw [List.flatMap_cons, List.length_append, h, ih, List.length_cons, Nat.mul_succ, Nat.add_comm]

theorem decode_flatMap {α β} (dec : List String → Option (List β)) (toks : α → List String) (val : α → β)
    (hnil : dec [] = some [])
    (hcons : ∀ x rest r, dec rest = some r → dec (toks x ++ rest) = some (val x :: r))
    (xs : List α) : dec (xs.flatMap toks) = some (xs.map val) := by
  induction xs with
  | nil => exact hnil
  | cons x xs ih => exact hcons x _ _ ih

theorem mapM_map_ok {ε α β γ} (f : β → Except ε γ) (h : α → β) (g : α → γ) (xs : List α)
    (H : ∀ x ∈ xs, f (h x) = .ok (g x)) : (xs.map h).mapM f = .ok (xs.map g) := by
  induction xs with
  | nil => rfl
  | cons x xs ih =>
    rw [List.map_cons, List.mapM_cons, H x (List.mem_cons_self ..),
      ih (fun y hy => H y (List.mem_cons_of_mem _ hy))]
    rfl

theorem mapM_error {ε α β} (f : α → Except ε β) (e : ε) (xs : List α) (x : α) (hx : x ∈ xs)
    (hbad : f x = .error e) (h : ∀ y ∈ xs, (∃ b, f y = .ok b) ∨ f y = .error e) :
    xs.mapM f = .error e := by
  induction xs with
  | nil => simp at hx
  | cons y ys ih =>
    rw [List.mapM_cons]
    rcases h y (List.mem_cons_self ..) with ⟨b, hb⟩ | hb
    · rcases List.mem_cons.mp hx with rfl | hx'
      · rw [hb] at hbad; cases hbad
      · rw [hb, ih hx' (fun z hz => h z (List.mem_cons_of_mem _ hz))]; rfl
    · rw [hb]; rfl

open Spec in
theorem b64Val_b64Char : ∀ n, n < 64 → b64Val? (b64Char n) = some n := by decide +kernel
theorem b64Char_ne_pad : ∀ n, n < 64 → b64Char n ≠ '=' := by decide +kernel

theorem u8_ofNat_eq (a : UInt8) (k : Nat) (h : k = a.toNat) : UInt8.ofNat k = a := by
  subst h; exact UInt8.ofNat_toNat

theorem b64Char_clean : ∀ n, n < 64 → b64Char n ≠ '|' ∧ b64Char n ≠ '\r' ∧ b64Char n ≠ '\n' := by
  decide +kernel

theorem b64encode_clean (b : Bytes) : ∀ c ∈ b64encode b, c ≠ '|' ∧ c ≠ '\r' ∧ c ≠ '\n' := by
  have hc := b64Char_clean
  fun_induction b64encode b with
  | case1 => simp
  | case2 a n =>
    have hn : n < 256 := a.toNat_lt
    simp only [List.forall_mem_cons, List.not_mem_nil, false_imp_iff, implies_true, and_true]
    exact ⟨hc _ (by omega), hc _ (by omega), by decide, by decide⟩
  | case3 a b n m =>
    have hn : n < 256 := a.toNat_lt
    have hm : m < 256 := b.toNat_lt
    simp only [List.forall_mem_cons, List.not_mem_nil, false_imp_iff, implies_true, and_true]
    exact ⟨hc _ (by omega), hc _ (by omega), hc _ (by omega), by decide⟩
  | case4 a b c rest n m k ih =>
    have hn : n < 256 := a.toNat_lt
    have hm : m < 256 := b.toNat_lt
    have hk : k < 256 := c.toNat_lt
    simp only [List.forall_mem_cons]
    exact ⟨hc _ (by omega), hc _ (by omega), hc _ (by omega), hc _ (by omega), ih⟩

end Ari
