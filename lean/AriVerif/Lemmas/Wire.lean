import AriVerif.Requests
/-! helper lemmas about splitBarL / joinBarL / rstripL / pyInt? / read (shared by C06 – C09) -/
namespace Ari

theorem R.bind_ok {α β} (a : α) (f : α → R β) : (Except.ok a >>= f) = f a := rfl
theorem R.bind_error {α β} (f : α → R β) : ((Except.error () : R α) >>= f) = .error () := rfl

theorem R.bind_eq_error {α β} (x : R α) {f : α → R β} (h : ∀ a, f a = .error ()) : x >>= f = .error () := by
  cases x with
  | error e => rfl
  | ok a => exact h a

theorem read_error_of_marker (toks : List String) (c : Char) (i : Nat)
    (h : toks[i]? ≠ some (String.singleton c)) : read toks c i = .error () := by
  simp only [read, readToken]
  cases ht : toks[i]? with
  | none => rfl
  | some t => exact if_neg fun e => h (by rw [ht, e])

theorem read_error_of_short (toks : List String) (c : Char) (i : Nat)
    (h : toks.length < i + 2) : read toks c i = .error () := by
  simp only [read, readToken, List.getElem?_eq_none_iff.mpr (show toks.length ≤ i + 1 by omega)]
  cases toks[i]? with
  | none => rfl
  | some t => by_cases e : t = String.singleton c <;> simp [R.bind_ok, R.bind_error]

/-- the three slots whose decoder can reject a token; an `S` slot yields `strInvalid` instead of failing. -/
theorem read_error_of_value (toks : List String) (c : Char) (i : Nat) (t : String) (ht : toks[i + 1]? = some t)
    (h : c = 'I' ∧ pyInt? t = none ∨ c = 'M' ∧ decodeModes t = .error () ∨ c = 'P' ∧ decodePlat t = .error ()) :
    read toks c i = .error () := by
  simp only [read, readToken, ht]
  cases toks[i]? with
  | none => rfl
  | some t0 =>
    by_cases e : t0 = String.singleton c
    · rcases h with ⟨rfl, h⟩ | ⟨rfl, h⟩ | ⟨rfl, h⟩ <;> simp [h, Except.map, R.bind_ok]
    · exact if_neg e

theorem read_I_error (toks : List String) (i : Nat) (t : String)
    (ht : toks[i + 1]? = some t) (h : pyInt? t = none) : read toks 'I' i = .error () :=
  read_error_of_value toks 'I' i t ht (.inl ⟨rfl, h⟩)

theorem read_M_error (toks : List String) (i : Nat) (t : String)
    (ht : toks[i + 1]? = some t) (h : decodeModes t = .error ()) : read toks 'M' i = .error () :=
  read_error_of_value toks 'M' i t ht (.inr (.inl ⟨rfl, h⟩))

theorem read_P_error (toks : List String) (i : Nat) (t : String)
    (ht : toks[i + 1]? = some t) (h : decodePlat t = .error ()) : read toks 'P' i = .error () :=
  read_error_of_value toks 'P' i t ht (.inr (.inr ⟨rfl, h⟩))

theorem decodeFixed_error (toks : List String) (tys : List Ty) (off i : Nat) (ty : Ty)
    (hi : tys[i]? = some ty) (h : read toks ty.marker (off + 2 * i) = .error ()) :
    decodeFixed toks tys off = .error () := by
  induction tys generalizing off i with
  | nil => simp at hi
  | cons ty0 tys ih =>
    unfold decodeFixed
    cases i with
    | zero =>
      simp at hi; subst hi
      simp at h
      rw [h]; rfl
    | succ i =>
      have := ih (off + 2) i hi (by rw [← h]; congr 1; omega)
      exact R.bind_eq_error _ fun _ => by rw [this]; rfl

theorem decodeFixed_short (toks : List String) (tys : List Ty) (off : Nat) (hne : tys ≠ [])
    (h : toks.length < off + 2 * tys.length) : decodeFixed toks tys off = .error () := by
  have hlen : 0 < tys.length := List.length_pos_iff.mpr hne
  have hi : tys[tys.length - 1]? = some (tys[tys.length - 1]'(by omega)) := by
    rw [List.getElem?_eq_getElem]
  exact decodeFixed_error toks tys off _ _ hi (read_error_of_short _ _ _ (by omega))

theorem decodeWith_error_of_fixed (σ : Schema) (toks : List String)
    (h : decodeFixed toks σ.fixed 0 = .error ()) : decodeWith σ toks = .error () := by
  unfold decodeWith
  rw [h]; rfl

theorem readSeqL_odd (data : List String) (h : data.length % 2 = 1) : readSeqL data = .error () := by
  fun_induction readSeqL data with
  | case1 => simp at h
  | case2 t => rw [read_error_of_short _ _ _ (by simp)]; rfl
  | case3 a b rest ih =>
    have := ih (by simp at h; omega)
    exact R.bind_eq_error _ fun _ => by rw [this]; rfl

theorem decodeTables_partial (fuel : Nat) (data : List String) (h : data.length % 14 ≠ 0) :
    decodeTables fuel data = .error () := by
  induction fuel generalizing data with
  | zero =>
    cases data with
    | nil => simp at h
    | cons a b => rfl
  | succ fuel ih =>
    cases data with
    | nil => simp at h
    | cons a b =>
      unfold decodeTables
      by_cases hl : (a :: b).length < 14
      · rw [decodeFixed_short _ _ _ (by decide) (by simp [tableTys]; simp at hl; omega)]; rfl
      · exact R.bind_eq_error _ fun _ => by
          rw [ih _ (by simp only [List.length_drop] at hl h ⊢; omega)]; rfl

theorem rstripL_spaces (l : List Char) (h : ∀ c ∈ l, isSpace c = true) : rstripL l = [] := by
  induction l with
  | nil => rfl
  | cons c cs ih =>
    simp only [rstripL, ih (fun c hc => h c (List.mem_cons_of_mem _ hc)), h c (List.mem_cons_self ..), if_true]

theorem rstripL_append_spaces (l sp : List Char) (h : ∀ c ∈ sp, isSpace c = true) :
    rstripL (l ++ sp) = rstripL l := by
  induction l with
  | nil => simp [rstripL_spaces sp h, rstripL]
  | cons c cs ih => simp only [List.cons_append, rstripL, ih]

theorem rstripL_nospace (l : List Char) (h : ∀ c ∈ l, isSpace c = false) : rstripL l = l := by
  induction l with
  | nil => rfl
  | cons c cs ih =>
    simp only [rstripL, ih (fun c hc => h c (List.mem_cons_of_mem _ hc))]
    cases cs with
    | nil => simp [h c (List.mem_cons_self ..)]
    | cons d ds => rfl

/-! `splitBarL` and `joinBarL` are the library's `List.splitOn '|'` and `List.intercalate ['|']`, and `joinBar` is
`String.intercalate "|"`; what is needed about them is read off the library's lemmas. -/

theorem joinBarL_eq (ts : List (List Char)) : joinBarL ts = ['|'].intercalate ts := by
  fun_induction joinBarL ts with
  | case1 => rfl
  | case2 t => simp
  | case3 t ts h ih =>
    obtain ⟨u, us, rfl⟩ := List.exists_cons_of_ne_nil (l := ts) (by intro e; subst e; simp at h)
    simp [ih]

theorem splitBarL_eq (l : List Char) : splitBarL l = l.splitOn '|' := by
  induction l with
  | nil => rfl
  | cons c cs ih =>
    rw [splitBarL, List.splitOn_cons_eq_if_modifyHead, ih]
    simp only [beq_iff_eq]
    cases h : List.splitOn '|' cs with
    | nil => exact absurd h (List.splitOn_ne_nil _ _)
    | cons t ts => rfl

theorem splitBarL_ne_nil (l : List Char) : splitBarL l ≠ [] := by
  rw [splitBarL_eq]; exact List.splitOn_ne_nil _ _

theorem joinBar_eq (ts : List String) : joinBar ts = "|".intercalate ts := by
  rw [← String.toList_inj, String.toList_intercalate, joinBar, String.toList_ofList, joinBarL_eq]
  rfl

theorem joinBar_nil : joinBar [] = "" := by
  rw [joinBar_eq, String.intercalate_nil]

theorem joinBar_singleton (a : String) : joinBar [a] = a := by
  rw [joinBar_eq, String.intercalate_singleton]

theorem joinBar_cons_cons (a b : String) (rest : List String) :
    joinBar (a :: b :: rest) = a ++ "|" ++ joinBar (b :: rest) := by
  rw [joinBar_eq, joinBar_eq, String.intercalate_cons_cons]

theorem joinBar_append (as bs : List String) (ha : as ≠ []) (hb : bs ≠ []) :
    joinBar (as ++ bs) = joinBar as ++ "|" ++ joinBar bs := by
  rw [joinBar_eq, joinBar_eq, joinBar_eq, String.intercalate_append_of_ne_nil ha hb]

theorem splitBar_joinBar (ts : List String) (hne : ts ≠ [])
    (h : ∀ t ∈ ts, ∀ c ∈ t.toList, c ≠ '|') : splitBar (joinBar ts) = ts := by
  rw [splitBar, joinBar_eq, String.toList_intercalate, splitBarL_eq]
  show (List.splitOn '|' (['|'].intercalate (ts.map String.toList))).map String.ofList = ts
  rw [List.splitOn_intercalate]
  · simp
  · intro l hl hm
    simp only [List.mem_map] at hl
    obtain ⟨t, ht, rfl⟩ := hl
    exact h t ht _ hm rfl
  · simpa using hne

theorem forall_mem_joinBar {P : Char → Prop} (ts : List String) (hbar : P '|')
    (h : ∀ t ∈ ts, ∀ c ∈ t.toList, P c) : ∀ c ∈ (joinBar ts).toList, P c := by
  induction ts with
  | nil => simp [joinBar_nil]
  | cons t ts ih =>
    cases ts with
    | nil => rw [joinBar_singleton]; exact h t (List.mem_cons_self ..)
    | cons u us =>
      rw [joinBar_cons_cons]
      simp only [String.toList_append, List.forall_mem_append]
      exact ⟨⟨h t (List.mem_cons_self ..), by simpa using hbar⟩, ih fun t ht => h t (List.mem_cons_of_mem _ ht)⟩

theorem rstrip_nospace (t : String) (h : ∀ c ∈ t.toList, isSpace c = false) : rstrip t = t := by
  unfold rstrip
  rw [rstripL_nospace _ h, String.ofList_toList]

theorem rstrip_joinBar_append (ts : List String) (term : String)
    (hterm : ∀ c ∈ term.toList, isSpace c = true)
    (h : ∀ t ∈ ts, ∀ c ∈ t.toList, isSpace c = false) :
    rstrip (joinBar ts ++ term) = joinBar ts := by
  unfold rstrip
  rw [String.toList_append, rstripL_append_spaces _ _ hterm,
    rstripL_nospace _ (forall_mem_joinBar ts (by decide) h), String.ofList_toList]

/-- a token a conforming encoder may put on the wire. -/
def CleanTok (t : String) : Prop := t ≠ "" ∧ ∀ c ∈ t.toList, c ≠ '|' ∧ isSpace c = false

/-- the literal tokens (markers, mode and platform codes, method names) are checked by evaluation. -/
instance (t : String) : Decidable (CleanTok t) := by unfold CleanTok; infer_instance

theorem tokenChar_clean (c : Char) (h : tokenChar c = true) : c ≠ '|' ∧ isSpace c = false := by
  constructor
  · intro e; subst e; revert h; decide
  · unfold tokenChar at h
    unfold isSpace
    simp only [Bool.or_eq_true, Bool.and_eq_true, decide_eq_true_eq, beq_iff_eq] at h
    simp only [Bool.or_eq_false_iff, Bool.and_eq_false_iff, decide_eq_false_iff_not]
    omega

theorem isDigit_clean (c : Char) (h : c.isDigit = true) : c ≠ '|' ∧ isSpace c = false := by
  constructor
  · intro e; subst e; revert h; decide
  · have h' : 48 ≤ c.toNat ∧ c.toNat ≤ 57 := Char.isDigit_iff_toNat.mp h
    unfold isSpace
    simp only [Bool.or_eq_false_iff, Bool.and_eq_false_iff, decide_eq_false_iff_not]
    omega

theorem digitsVal?_go_digits (l : List Char) (acc : Nat) (h : ∀ c ∈ l, c.isDigit = true) :
    digitsVal?.go acc l = some (Nat.ofDigitChars 10 l acc) := by
  induction l generalizing acc with
  | nil => simp [digitsVal?.go]
  | cons d rest ih =>
    have hd := h d (List.mem_cons_self ..)
    have hne : d ≠ '_' := by intro e; subst e; revert hd; decide
    rw [digitsVal?.go.eq_3 _ _ _ (fun _ _ e _ => hne e), if_pos hd,
      ih _ (fun c hc => h c (List.mem_cons_of_mem _ hc)), Nat.ofDigitChars_cons]
    simp [Nat.mul_comm]

theorem digitsVal?_digits (l : List Char) (hne : l ≠ []) (h : ∀ c ∈ l, c.isDigit = true) :
    digitsVal? l = some (Nat.ofDigitChars 10 l 0) := by
  cases l with
  | nil => exact absurd rfl hne
  | cons c cs =>
    rw [digitsVal?, if_pos (h c (List.mem_cons_self ..)), digitsVal?_go_digits _ _ (fun c hc => h c (List.mem_cons_of_mem _ hc)),
      Nat.ofDigitChars_cons]
    simp

theorem toDigits_isDigit (n : Nat) : ∀ c ∈ Nat.toDigits 10 n, c.isDigit = true :=
  fun _ hc => Nat.isDigit_of_mem_toDigits (by decide) (by decide) hc

theorem digitsVal?_toDigits (n : Nat) : digitsVal? (Nat.toDigits 10 n) = some n := by
  rw [digitsVal?_digits _ Nat.toDigits_ne_nil (toDigits_isDigit n), Nat.ofDigitChars_ten_toDigits]

theorem pyStrInt_toList (i : Int) : (pyStrInt i).toList =
    if 0 ≤ i then Nat.toDigits 10 i.toNat else '-' :: Nat.toDigits 10 (-i).toNat := by
  unfold pyStrInt
  rw [Int.toString_eq_repr, Int.repr_eq_if]
  split <;> simp

theorem pyStrInt_clean (i : Int) : CleanTok (pyStrInt i) := by
  constructor
  · intro e
    have := congrArg String.toList e
    rw [pyStrInt_toList] at this
    split at this
    · simp at this
    · simp at this
  · rw [pyStrInt_toList]
    intro c hc
    split at hc
    · exact isDigit_clean c (toDigits_isDigit _ c hc)
    · rcases List.mem_cons.mp hc with rfl | hc
      · decide
      · exact isDigit_clean c (toDigits_isDigit _ c hc)

theorem lstripL_head (c : Char) (cs : List Char) (h : isSpace c = false) :
    lstripL (c :: cs) = c :: cs := by
  simp [lstripL, h]

/-- `int(str(i)) == i`. -/
theorem pyInt?_pyStrInt (i : Int) : pyInt? (pyStrInt i) = some i := by
  unfold pyInt?
  rw [rstripL_nospace _ (fun c hc => ((pyStrInt_clean i).2 c hc).2), pyStrInt_toList]
  by_cases h : 0 ≤ i
  · rw [if_pos h]
    have hd := toDigits_isDigit i.toNat
    have hv := digitsVal?_toDigits i.toNat
    generalize Nat.toDigits 10 i.toNat = ds at hd hv
    cases ds with
    | nil => simp [digitsVal?] at hv
    | cons d rest =>
      have hd0 := hd d (List.mem_cons_self ..)
      rw [lstripL_head _ _ (isDigit_clean d hd0).2]
      -- the first digit is neither sign
      split
      · rename_i heq; simp only [List.cons.injEq] at heq; rw [heq.1] at hd0; exact absurd hd0 (by decide)
      · rename_i heq; simp only [List.cons.injEq] at heq; rw [heq.1] at hd0; exact absurd hd0 (by decide)
      · rw [hv]; simp; omega
  · rw [if_neg h, lstripL_head _ _ (by decide)]
    simp only [digitsVal?_toDigits, Option.map_some, Option.some.injEq, Int.ofNat_eq_natCast]
    omega

end Ari
