import AriVerif.Dispatch
/-!
# What the reader does with one line (`Dispatch.act`), analysed once

Which fields of the reader's state a line can change and what kinds of action it can produce; C09S, C10, C20 and
the init gate of the Metadata server model (Conc/MetaGate) argue from these facts instead of unfolding `act`.
-/
namespace Ari

def RAct.isInitialize : RAct → Bool | .initialize _ _ => true | _ => false
def RAct.isListener : RAct → Bool | .setListener => true | _ => false
def RAct.isReply : RAct → Bool | .reply _ => true | _ => false
/-- the action hands a request to the pool / subscription manager (the only way any other adapter method
    gets invoked). -/
def RAct.isWork : RAct → Bool | .submit _ _ _ => true | .dataReq _ _ _ => true | _ => false

/-- neither an adapter call on the reader thread, nor a reply, nor work handed on. -/
def Inert (a : RAct) : Prop :=
  a.isInitialize = false ∧ a.isListener = false ∧ a.isReply = false ∧ a.isWork = false

theorem onException_no_work (cfg : SrvCfg) : ∀ a ∈ onException cfg, Inert a := by
  unfold onException Inert
  cases cfg.kind <;> cases cfg.excHandler <;> simp [RAct.isInitialize, RAct.isListener, RAct.isReply, RAct.isWork]

def LineClass.isInit : LineClass → Bool | .initReq _ _ => true | _ => false

theorem act_initExpected (cfg : SrvCfg) (env : InitEnv) (st : RState) (c : LineClass) :
    (act cfg env st c).1.initExpected = (st.initExpected && !c.isInit) := by
  cases c with
  | initReq id prs =>
    -- an open slot is consumed whether or not the request is well formed; a late init request changes nothing
    cases hi : st.initExpected <;> cases prs <;> simp [act, hi, LineClass.isInit]
  | _ =>
    -- every other class leaves the state as it is or (`closeOk`) sets `closed`
    simp only [act, LineClass.isInit, Bool.not_false, Bool.and_true]
    repeat' split
    all_goals rfl

theorem act_actions (cfg : SrvCfg) (env : InitEnv) (st : RState) (c : LineClass) :
    (∀ a ∈ (act cfg env st c).2, Inert a) ∨
    (st.initExpected = false ∧ ∃ a, (act cfg env st c).2 = [a] ∧ a.isWork = true) ∨
    (st.initExpected = true ∧ ∃ id prs, c = .initReq id (some prs)) := by
  have hx := onException_no_work cfg
  have hd : ∀ a ∈ [RAct.discard], Inert a := by simp [Inert, RAct.isInitialize, RAct.isListener, RAct.isReply, RAct.isWork]
  cases c with
  | garbage => exact .inl hd
  | closeOk => exact .inl (by simp [act, Inert, RAct.isInitialize, RAct.isListener, RAct.isReply, RAct.isWork])
  | closeBad => exact .inl hx
  | ownBad => exact .inl hx
  | unknown => refine .inl ?_; simp only [act]; split <;> assumption
  | own m id toks item =>
    cases hi : st.initExpected
    · refine .inr (.inl ⟨rfl, ?_⟩)
      simp only [act, hi]
      cases item <;> exact ⟨_, rfl, rfl⟩
    · refine .inl ?_; simp only [act, hi]; exact hx
  | initReq id prs =>
    cases hi : st.initExpected
    · refine .inl ?_; simp only [act, hi]; exact hx
    · cases prs with
      | none => refine .inl ?_; simp only [act, hi]; exact hx
      | some prs => exact .inr (.inr ⟨rfl, id, prs, rfl⟩)

theorem act_closed (cfg : SrvCfg) (env : InitEnv) (st : RState) (c : LineClass) :
    (act cfg env st c).1.closed = true → st.closed = true ∨ c = .closeOk := by
  cases c with
  | closeOk => exact fun _ => .inr rfl
  | _ =>
    -- every other class leaves the state as it is or (`initReq`) changes the init slot, the close-packet flag and
    -- the keepalive interval
    simp only [act]
    repeat' split
    all_goals exact .inl

theorem dispatchAll_cons (cfg : SrvCfg) (env : InitEnv) (st : RState) (l : String) (rest : List String) :
    dispatchAll cfg env st (l :: rest) =
      ((dispatchAll cfg env (dispatch cfg env st l).1 rest).1,
       (dispatch cfg env st l).2 :: (dispatchAll cfg env (dispatch cfg env st l).1 rest).2) := by
  rw [dispatchAll]

end Ari
