import AriVerif.Framing
/-!
# C15 — inbound framing is independent of transport segmentation

`feedL` is one iteration of the reader loop (`buffer += data; splitlines(keepends=True); dispatch the
tokens ending in LF; keep the last unterminated token`), `feedAllL` the loop over a list of read chunks.
A *well-formed stream* is a concatenation of request lines whose content is free of control characters
(values are percent-encoded) and which end in CRLF or LF, followed by an unterminated remainder.

Two facts give the result.  For any bytes at all, reading in pieces is reading at once (`feedL_append`,
`feedAllL_eq_feedL`): the token the loop holds back is re-scanned from its first character together with what
arrives next, and the scanner is in its initial state at every token boundary (`fold_restart`).  And one read of
a well-formed stream dispatches its lines and holds its remainder (`feedL_wf`, line by line by the first fact).
-/
namespace Ari

/-- no character `str.splitlines` would break at. -/
def NoBreak (l : List Char) : Prop := ∀ c ∈ l, c ≠ '\r' ∧ isLineBreak c = false

def IsLine (l : List Char) : Prop := ∃ body, NoBreak body ∧ (l = body ++ ['\r', '\n'] ∨ l = body ++ ['\n'])

/-- a partial line the loop may be holding; a trailing CR may still be completed to CR LF. -/
def Adm (r : List Char) : Prop := NoBreak r ∨ ∃ body, NoBreak body ∧ r = body ++ ['\r']

theorem splitLinesAux_nil (cur : List Char) :
    splitLinesAux [] cur = if cur.isEmpty then [] else [cur.reverse] := by
  rw [splitLinesAux]

theorem splitLinesAux_crlf (rest cur : List Char) :
    splitLinesAux ('\r' :: '\n' :: rest) cur = ('\n' :: '\r' :: cur).reverse :: splitLinesAux rest [] := by
  rw [splitLinesAux]

/-! The third equation of `splitLinesAux` (any first character) carries the side condition that the input is not
`'\r' :: '\n' :: _`, the pattern of the second; each use below discharges it first. -/

theorem splitLinesAux_break (c : Char) (rest cur : List Char)
    (hx : ∀ r, c = '\r' → rest = '\n' :: r → False) (hb : c = '\r' ∨ isLineBreak c = true) :
    splitLinesAux (c :: rest) cur = (c :: cur).reverse :: splitLinesAux rest [] := by
  rw [splitLinesAux.eq_3 _ _ _ hx, if_pos hb]

theorem splitLinesAux_lf (rest cur : List Char) :
    splitLinesAux ('\n' :: rest) cur = ('\n' :: cur).reverse :: splitLinesAux rest [] :=
  splitLinesAux_break '\n' rest cur (fun _ h => absurd h (by decide)) (.inr (by decide))

theorem splitLinesAux_plain (c : Char) (hc : c ≠ '\r') (hb : isLineBreak c = false) (rest cur : List Char) :
    splitLinesAux (c :: rest) cur = splitLinesAux rest (c :: cur) := by
  rw [splitLinesAux.eq_3 _ _ _ (by intro _ h; exact absurd h hc)]
  simp [hc, hb]

theorem splitLinesAux_nobreak (body : List Char) (h : NoBreak body) (rest cur : List Char) :
    splitLinesAux (body ++ rest) cur = splitLinesAux rest (body.reverse ++ cur) := by
  induction body generalizing cur with
  | nil => simp
  | cons c body ih =>
    have hc := h c (by simp)
    have hb : NoBreak body := fun d hd => h d (by simp [hd])
    rw [List.cons_append, splitLinesAux_plain c hc.1 hc.2, ih hb]
    simp

theorem splitLinesAux_ne_nil (x cur : List Char) (h : x ≠ [] ∨ cur ≠ []) : splitLinesAux x cur ≠ [] := by
  fun_induction splitLinesAux x cur with
  | case1 cur hc => simp_all
  | case2 cur hc => simp
  | case3 rest cur ih => simp
  | case4 c rest cur hx hb ih => simp
  | case5 c rest cur hx hb ih => exact ih (.inr (by simp))

theorem NoBreak.nil : NoBreak [] := by intro c hc; cases hc

theorem NoBreak.reverse {l : List Char} (h : NoBreak l) : NoBreak l.reverse :=
  fun c hc => h c (List.mem_reverse.mp hc)

theorem NoBreak.lf_not_mem {l : List Char} (h : NoBreak l) : '\n' ∉ l := by
  intro hm
  have := (h _ hm).2
  exact absurd this (by decide)

theorem Adm.lf_not_mem {l : List Char} (h : Adm l) : '\n' ∉ l := by
  rcases h with h | ⟨body, hb, rfl⟩
  · exact h.lf_not_mem
  · intro hm
    rcases List.mem_append.1 hm with hm | hm
    · exact hb.lf_not_mem hm
    · simp at hm

theorem Adm.getLast_ne {r : List Char} (h : Adm r) : r.getLast? ≠ some '\n' := by
  intro hl
  exact h.lf_not_mem (List.mem_of_getLast? hl)

def feedStep (acc : List (List Char) × List Char) (tok : List Char) : List (List Char) × List Char :=
  if tok.getLast? = some '\n' then (acc.1 ++ [tok], []) else (acc.1, tok)

theorem feedL_eq (b c : List Char) : feedL b c = (splitLinesKeep (b ++ c)).foldl feedStep ([], []) := rfl

theorem feedStep_lf (s : List (List Char) × List Char) (tok : List Char) (h : tok.getLast? = some '\n') :
    feedStep s tok = (s.1 ++ [tok], []) := if_pos h

theorem feedStep_open (s : List (List Char) × List Char) (tok : List Char) (h : tok.getLast? ≠ some '\n') :
    feedStep s tok = (s.1, tok) := if_neg h

/-- the first token overwrites the held buffer. -/
theorem foldl_feedStep_buf (l : List (List Char)) (hl : l ≠ []) (acc : List (List Char)) (buf : List Char) :
    l.foldl feedStep (acc, buf) = l.foldl feedStep (acc, []) := by
  cases l with
  | nil => exact absurd rfl hl
  | cons t l => rfl

theorem foldl_feedStep_acc (l : List (List Char)) (acc : List (List Char)) (buf : List Char) :
    l.foldl feedStep (acc, buf) =
      (acc ++ (l.foldl feedStep ([], buf)).1, (l.foldl feedStep ([], buf)).2) := by
  induction l generalizing acc buf with
  | nil => simp
  | cons t l ih =>
    rw [List.foldl_cons, List.foldl_cons, ih, ih (feedStep ([], buf) t).1]
    unfold feedStep
    split <;> simp

/-- Scanning `x ++ d` (current token `cur`, break-free) and folding is: scanning `x` and folding, then scanning
    what is held after `x` together with `d`.  By the cases of `splitLinesAux` on `x`; where `x` ends inside or
    right after a token that is held (no LF at its end), `splitLinesAux_nobreak` says that re-scanning this token
    from an empty `cur` brings the scanner back to where it was, and the held buffer it replaces does not matter
    because a token follows (`foldl_feedStep_buf`). -/
theorem fold_restart (x cur d : List Char) (acc : List (List Char)) (buf : List Char)
    (hcur : NoBreak cur) (h : x ≠ [] ∨ cur ≠ [] ∨ buf = []) :
    (splitLinesAux (x ++ d) cur).foldl feedStep (acc, buf) =
      (splitLinesAux (((splitLinesAux x cur).foldl feedStep (acc, buf)).2 ++ d) []).foldl feedStep
        (((splitLinesAux x cur).foldl feedStep (acc, buf)).1, []) := by
  fun_induction splitLinesAux x cur generalizing acc buf with
  | case1 cur hc =>
    -- nothing scanned, nothing held
    have hb : buf = [] := by simpa [List.isEmpty_iff.mp hc] using h
    subst hb
    rw [List.isEmpty_iff.mp hc]
    rfl
  | case2 cur hc =>
    -- `x` ends inside a token: `cur.reverse` is held
    rw [List.foldl_cons, List.foldl_nil, feedStep_open _ _ (Adm.getLast_ne (.inl hcur.reverse))]
    rw [splitLinesAux_nobreak _ hcur.reverse, List.reverse_reverse, List.append_nil]
    exact foldl_feedStep_buf _ (splitLinesAux_ne_nil _ _ (.inr (by simpa using hc))) _ _
  | case3 rest cur ih =>
    rw [List.cons_append, List.cons_append, splitLinesAux_crlf, List.foldl_cons, List.foldl_cons,
      feedStep_lf _ _ (by simp)]
    exact ih _ _ NoBreak.nil (.inr (.inr rfl))
  | case4 c rest cur hx hb ih =>
    rw [List.foldl_cons]
    cases rest with
    | cons r rest =>
      rw [List.cons_append,
        splitLinesAux_break c _ cur (fun r' hc e => hx _ hc (by rw [(List.cons.inj e).1])) hb, List.foldl_cons]
      exact ih _ _ NoBreak.nil (.inl (by simp))
    | nil =>
      -- `x` ends with the break `c`: after LF nothing is held; any other break closes a token that is held, and
      -- a CR may still be completed to CR LF by `d`
      show List.foldl feedStep (acc, buf) (splitLinesAux ([c] ++ d) cur) =
        List.foldl feedStep ((feedStep (acc, buf) (c :: cur).reverse).1, [])
          (splitLinesAux ((feedStep (acc, buf) (c :: cur).reverse).2 ++ d) [])
      by_cases hc : c = '\n'
      · subst hc
        rw [feedStep_lf _ _ (by simp), List.cons_append, splitLinesAux_lf, List.foldl_cons,
          feedStep_lf _ _ (by simp)]
      · rw [feedStep_open _ _ (by simpa using hc)]
        rw [List.reverse_cons, List.append_assoc, splitLinesAux_nobreak _ hcur.reverse, List.reverse_reverse,
          List.append_nil]
        exact foldl_feedStep_buf _ (splitLinesAux_ne_nil _ _ (.inl (by simp))) _ _
  | case5 c rest cur hx hb ih =>
    have hb' : c ≠ '\r' ∧ isLineBreak c = false := by simpa using hb
    rw [List.cons_append, splitLinesAux_plain c hb'.1 hb'.2]
    refine ih _ _ (fun a ha => ?_) (.inr (.inl (by simp)))
    rcases List.mem_cons.mp ha with rfl | ha
    · exact hb'
    · exact hcur a ha

/-- **segmentation independence, any bytes.** Reading `c` and then `d` dispatches what reading `c ++ d` at once
    dispatches, and holds the same remainder. -/
theorem feedL_append (b c d : List Char) :
    feedL b (c ++ d) = ((feedL b c).1 ++ (feedL (feedL b c).2 d).1, (feedL (feedL b c).2 d).2) := by
  rw [feedL_eq, ← List.append_assoc]
  unfold splitLinesKeep
  rw [fold_restart (b ++ c) [] d [] [] NoBreak.nil (.inr (.inr rfl)), foldl_feedStep_acc]
  rfl

theorem feedAllL_cons (b c : List Char) (cs : List (List Char)) :
    feedAllL b (c :: cs) = ((feedL b c).1 ++ (feedAllL (feedL b c).2 cs).1, (feedAllL (feedL b c).2 cs).2) := rfl

theorem feedAllL_eq_feedL (chunks : List (List Char)) (hne : chunks ≠ []) (b : List Char) :
    feedAllL b chunks = feedL b chunks.flatten := by
  induction chunks generalizing b with
  | nil => exact absurd rfl hne
  | cons c cs ih =>
    cases cs with
    | nil => simp [feedAllL]
    | cons c' cs =>
      rw [feedAllL_cons, ih (by simp)]
      exact (feedL_append b c _).symm

theorem split_adm (r : List Char) (hr : Adm r) :
    splitLinesAux r [] = if r = [] then [] else [r] := by
  rcases hr with h | ⟨body, hb, rfl⟩
  · have := splitLinesAux_nobreak r h [] []
    rw [List.append_nil] at this
    rw [this, splitLinesAux_nil]
    by_cases hr : r = [] <;> simp [hr]
  · rw [splitLinesAux_nobreak body hb, splitLinesAux_break '\r' [] _ (fun _ _ h => by cases h) (.inl rfl),
      splitLinesAux_nil]
    simp

theorem feedL_line (l : List Char) (h : IsLine l) : feedL [] l = ([l], []) := by
  rw [feedL_eq, List.nil_append]
  unfold splitLinesKeep
  rcases h with ⟨body, hb, rfl | rfl⟩
  · rw [splitLinesAux_nobreak body hb, splitLinesAux_crlf, splitLinesAux_nil]
    simp [feedStep]
  · rw [splitLinesAux_nobreak body hb, splitLinesAux_lf, splitLinesAux_nil]
    simp [feedStep]

theorem feedL_adm (r : List Char) (h : Adm r) : feedL [] r = ([], r) := by
  rw [feedL_eq, List.nil_append]
  unfold splitLinesKeep
  rw [split_adm r h]
  by_cases hr : r = []
  · simp [hr]
  · simp [hr, feedStep_open _ _ h.getLast_ne]

theorem feedL_wf (lines : List (List Char)) (rem : List Char) (hl : ∀ l ∈ lines, IsLine l) (hr : Adm rem) :
    feedL [] (lines.flatten ++ rem) = (lines, rem) := by
  induction lines with
  | nil => simpa using feedL_adm rem hr
  | cons l ls ih =>
    rw [List.flatten_cons, List.append_assoc, feedL_append, feedL_line l (hl l (by simp)),
      ih fun l' hl' => hl l' (by simp [hl'])]
    rfl

/-- **C15 (segmentation independence).** For every stream of well-formed lines followed by an unterminated
    break-free remainder, and every way of cutting it into read chunks — inside a line, between CR and LF,
    many lines per chunk, one byte at a time, empty reads excluded or not — the loop dispatches exactly the
    lines, each once, in order and unmodified, and holds exactly the remainder. -/
theorem c15_segmentation (lines : List (List Char)) (rem : List Char) (chunks : List (List Char))
    (hl : ∀ l ∈ lines, IsLine l) (hr : NoBreak rem ∨ ∃ body, NoBreak body ∧ rem = body ++ ['\r'])
    (hc : chunks.flatten = lines.flatten ++ rem) :
    feedAllL [] chunks = (lines, rem) := by
  have : feedAllL [] chunks = feedL [] chunks.flatten := by
    cases chunks with
    | nil => rfl
    | cons c cs => exact feedAllL_eq_feedL _ (by simp) []
  rw [this, hc]
  exact feedL_wf lines rem hl hr

/-- **C15 (homomorphism).** What is dispatched does not depend on where earlier cuts were: feeding
    `cs₁ ++ cs₂` is feeding `cs₁`, then `cs₂` from the buffer that was left. -/
theorem c15_hom (b : List Char) (cs₁ cs₂ : List (List Char)) :
    feedAllL b (cs₁ ++ cs₂) =
      ((feedAllL b cs₁).1 ++ (feedAllL (feedAllL b cs₁).2 cs₂).1, (feedAllL (feedAllL b cs₁).2 cs₂).2) := by
  induction cs₁ generalizing b with
  | nil => simp [feedAllL]
  | cons c cs ih =>
    simp only [List.cons_append, feedAllL]
    rw [ih]
    simp

/-- **C15 (an incomplete line is held).** While no terminator has arrived nothing is dispatched, and the
    buffer is everything received so far. -/
theorem c15_hold (chunks : List (List Char)) (h : NoBreak chunks.flatten) :
    feedAllL [] chunks = ([], chunks.flatten) :=
  c15_segmentation [] chunks.flatten chunks (by intro l hl; cases hl) (Or.inl h) (by simp)

-- concrete instances (tests, labelled as such): a cut between CR and LF, and byte-at-a-time
example : feedAllL [] ["1|SUB|S|a\r".toList, "\n2|USB|S|a\n3|S".toList] =
    (["1|SUB|S|a\r\n".toList, "2|USB|S|a\n".toList], "3|S".toList) := by decide +kernel
example : feedAllL [] ("ab\r\ncd\n".toList.map fun c => [c]) = (["ab\r\n".toList, "cd\n".toList], []) := by
  decide +kernel

end Ari
