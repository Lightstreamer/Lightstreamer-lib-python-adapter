import AriVerif.Init
/-!
# C11 — version negotiation and init parameters follow the compatibility table

`negotiate` and `onInit` are compositions of definitions **generated from server.py on every run**
(`Gen.prologue`, `Gen.metaSupported`, `Gen.dataSupported`, `Gen.epilogue`, `Gen.maxVersion`); the
theorems quantify over every version string (`String`), absent version (`none`), every parameter
map and every adapter outcome.
-/
namespace Ari

/-- **C11 (Metadata table).** Refuses only the reserved 1.8.1 and an explicitly announced 1.8.0;
    a missing version is treated as 1.8.0, 1.8.2 is echoed, everything else is answered 1.8.3. -/
theorem c11_meta (pv : Option String) :
    negotiate .metaK pv =
      match pv with
      | none => some "1.8.0"
      | some v => if v = "1.8.0" ∨ v = "1.8.1" then none
                  else if v = "1.8.2" then some "1.8.2" else some "1.8.3" := by
  unfold negotiate Gen.prologue Gen.metaSupported Gen.maxVersion
  cases pv with
  | none => decide
  | some v =>
    -- the literals the generated code compares `v` with: `Gen.prologue` refuses 1.8.0 and 1.8.1, `Gen.metaSupported`
    -- echoes 1.8.0 / 1.8.2 and `Gen.maxVersion` = 1.8.3; one evaluation each, then the branch of every other string
    by_cases h0 : v = "1.8.0"
    · subst h0; decide
    by_cases h1 : v = "1.8.1"
    · subst h1; decide
    by_cases h2 : v = "1.8.2"
    · subst h2; decide
    simp [h0, h1, h2]

/-- **C11 (Data table).** Refuses a missing version, every `1.8.x` and `1.9.0`; otherwise 1.8.3. -/
theorem c11_data (pv : Option String) :
    negotiate .dataK pv =
      match pv with
      | none => none
      | some v => if pyStartsWith v "1.8." ∨ v = "1.9.0" then none else some "1.8.3" := by
  unfold negotiate Gen.prologue Gen.dataSupported Gen.maxVersion
  cases pv with
  | none => decide
  | some v =>
    -- as in `c11_meta`; `Gen.dataSupported` compares with `Gen.maxVersion` = 1.8.3, the prefix `1.8.` and 1.9.0
    by_cases h0 : v = "1.8.0"
    · subst h0; decide
    by_cases h1 : v = "1.8.1"
    · subst h1; decide
    by_cases h3 : v = "1.8.3"
    · subst h3; decide
    by_cases h9 : v = "1.9.0"
    · subst h9; decide
    by_cases hp : pyStartsWith v "1.8." = true <;> simp [h0, h1, h3, hp]

/-- reply and close flag for an accepted version (generated epilogue, all strings). -/
theorem c11_epilogue (adv : String) (closeBefore : Bool) :
    Gen.epilogue adv closeBefore =
      (if adv = "1.8.0" ∨ adv = "1.8.2" then false else closeBefore,
       if adv = "1.8.0" then none else some adv) := by
  unfold Gen.epilogue
  by_cases h0 : adv = "1.8.0"
  · subst h0; decide +revert
  by_cases h2 : adv = "1.8.2"
  · subst h2; decide +revert
  simp [h0, h2]

/-- **C11 (no initialization on refusal).** -/
theorem c11_no_init_on_refusal (i : InitIn)
    (h : negotiate i.kind (asVersion (pdGet (dictOf i.pairs) ariVersionKey)) = none) :
    (onInit i).initArgs = none ∧ (onInit i).listenerCalled = false ∧
    (onInit i).reply = joinBar [i.kind.method, "E", "*"] ∧ (onInit i).closeExpected = i.closeBefore := by
  simp [onInit, h]

/-- **C11 (parameters).** On acceptance `initialize` receives exactly the Proxy-supplied parameters
    minus the two reserved negotiation keys, overlaid by the locally configured parameters (local
    wins; reserved keys inside the local map pass through), together with the configured file. -/
theorem c11_params (i : InitIn) (adv : String)
    (h : negotiate i.kind (asVersion (pdGet (dictOf i.pairs) ariVersionKey)) = some adv) :
    (onInit i).initArgs =
      some (match i.localParams with
            | some p => pdUpdate (pdErase (pdErase (dictOf i.pairs) ariVersionKey) keepaliveKey) p
            | none => pdErase (pdErase (dictOf i.pairs) ariVersionKey) keepaliveKey,
            i.configFile) := by
  unfold onInit
  simp only [h]
  cases i.initOutcome <;> simp only []
  · split <;> rfl
  · rfl

/-- lookup semantics of the merged map (what "overlaid, local wins" means key by key). -/
theorem c11_erase_get (d : PDict) (k k' : Val) :
    pdGet (pdErase d k) k' = if k' = k then none else pdGet d k' := by
  unfold pdGet pdErase
  rw [List.find?_filter]
  split
  · subst k'; simp
  · rename_i h
    -- an entry with key `k'` is not one with key `k`
    congr 2; funext a
    by_cases ha : a.1 = k' <;> simp [ha, h]

/-- **C11 (error type).** A failing `initialize` becomes the error reply of the init method, typed by
    the provider error class exactly as C08 states for `DPI` / `MPI`. -/
theorem c11_error_type (i : InitIn) (adv : String) (e : Exc)
    (h : negotiate i.kind (asVersion (pdGet (dictOf i.pairs) ariVersionKey)) = some adv)
    (he : i.initOutcome = .raise e) :
    (onInit i).reply = writeError i.kind.method e ∧ (onInit i).closeExpected = i.closeBefore := by
  simp [onInit, h, he]

/-- **C11 (close packets afterwards).** After a successful initialization close requests are honoured
    iff the agreed version is neither 1.8.0 nor 1.8.2 (i.e. is 1.8.3); after a refused or failed one
    the flag is unchanged (still honoured on a fresh server). -/
theorem c11_close (i : InitIn) (adv : String) (v : PyVal)
    (h : negotiate i.kind (asVersion (pdGet (dictOf i.pairs) ariVersionKey)) = some adv)
    (he : i.initOutcome = .ret v) (hl : i.kind = .dataK → ∃ w, i.listenerOutcome = .ret w) :
    (onInit i).closeExpected = (if adv = "1.8.0" ∨ adv = "1.8.2" then false else i.closeBefore) ∧
    (onInit i).reply = writeInitOk i.kind.method (if adv = "1.8.0" then none else some adv) := by
  by_cases hk : i.kind = .dataK
  · obtain ⟨w, hw⟩ := hl hk
    rw [hk] at h
    simp [onInit, h, he, hk, hw, c11_epilogue]
  · have hm : i.kind = .metaK := by cases hh : i.kind <;> simp_all
    rw [hm] at h
    simp [onInit, h, he, hm, c11_epilogue]

/-- **C11/C12 (the hint is applied whatever the init outcome).** -/
theorem c11_hint_independent (i : InitIn) :
    (onInit i).keepAlive = effective i.keepAlive
      (if (match pdGet (dictOf i.pairs) keepaliveKey with | some (.str (some _)) => true | _ => false)
       then i.hintValue else none) := by
  unfold onInit
  simp only []
  split
  · rfl
  · split
    · rfl
    · split <;> rfl

/-- the two structural facts the translator checks on `_on_init` (recorded as generated constants). -/
theorem c11_shape : Gen.initCallsShape = true ∧ Gen.hintAppliedOnEveryPath = true := by decide

-- non-vacuity (tests, labelled as such)
example : negotiate .metaK (some "1.9.1") = some "1.8.3" := by rw [c11_meta]; decide
example : negotiate .dataK (some "1.10.0") = some "1.8.3" := by rw [c11_data]; decide
example : negotiate .dataK (some "1.8.3") = none := by rw [c11_data]; decide

end Ari
