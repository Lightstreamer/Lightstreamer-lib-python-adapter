import AriVerif.Lemmas.Dispatch
/-!
# C09 (server part) — a malformed request is reported once, never answered, and service continues
-/
namespace Ari

/-- **C09 (handling of a rejected request).** A request of one of the server's methods that does not decode
    produces exception handling only — no adapter call, no reply, no work — and leaves the state unchanged. -/
theorem c09_server_rejected (cfg : SrvCfg) (env : InitEnv) (st : RState) :
    act cfg env st .ownBad = (st, onException cfg) ∧
    ∀ a ∈ onException cfg, a.isInitialize = false ∧ a.isListener = false ∧ a.isReply = false ∧ a.isWork = false := by
  exact ⟨rfl, onException_no_work cfg⟩

/-- **C09 (reported exactly once; Data default = one failure notification).** The exception handler is
    notified exactly once iff one is installed; the default handling (for a Data server: one FAL notification;
    for a Metadata server: nothing) runs iff no handler is installed or it returns a true value. -/
theorem c09_reported_once (cfg : SrvCfg) :
    onException cfg =
      (match cfg.excHandler with | none => [] | some _ => [RAct.handlerExc]) ++
      (if cfg.kind = .dataK ∧ cfg.excHandler ≠ some false then [RAct.fal] else []) := by
  unfold onException
  cases cfg.kind <;> cases cfg.excHandler with
  | none => simp
  | some r => cases r <;> simp

/-- which lines are malformed requests in this sense: a request of one of the kind's own methods whose
    arguments the decoder rejects (C09 decoder part). -/
theorem c09_malformed_is_ownBad (cfg : SrvCfg) (ce : Bool) (line id m : String) (toks : List String) (e : ParseError)
    (hp : parseRequest line = some (id, m, toks)) (hnc : m ≠ "CLOSE") (hni : m ≠ cfg.kind.method)
    (hown : match cfg.kind with | .metaK => metaMethods.contains m = true | .dataK => m = "SUB" ∨ m = "USB")
    (hd : decodeRequest m toks = some (.error e)) :
    classify cfg ce line = .ownBad := by
  unfold classify
  simp only [hp, hnc, false_and, if_false, hni]
  cases hk : cfg.kind with
  | metaK =>
    rw [hk] at hown
    simp only [hown, if_true, hd]
  | dataK =>
    rw [hk] at hown
    simp only [hown, if_true, hd]

/-- **C09 (service continues).** Requests received afterwards are processed exactly as if the bad line had
    not been there. -/
theorem c09_continues (cfg : SrvCfg) (env : InitEnv) (st : RState) (bad : String) (rest : List String)
    (hb : classify cfg st.closeExpected bad = .ownBad) :
    dispatchAll cfg env st (bad :: rest) =
      ((dispatchAll cfg env st rest).1, onException cfg :: (dispatchAll cfg env st rest).2) := by
  simp only [dispatchAll, dispatch, hb, act]

end Ari
