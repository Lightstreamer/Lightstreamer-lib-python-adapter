import AriVerif.Gen.State
import AriVerif.Spec.State
/-!
# Every item manager owns its state (subscription.py)

`Conc.Item` is one machine per item; the Data server is their product.  That is adequate only if no two managers share a
container or a class-level field.
-/
namespace Ari

theorem state_sub_from_source :
    Spec.stateRows Gen.sharedState ["subscription.py"] = Spec.stateRows Spec.sharedState ["subscription.py"] := rfl

end Ari
