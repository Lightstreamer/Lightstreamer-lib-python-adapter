import AriVerif.Lemmas.Dispatch
/-!
# C20 — teardown: close requests stop the server; I/O failures reach the handler

Close handling and the reactions to I/O failures are sequential code: `dispatch` (one request line on the
reader thread), `readerFault` (EOF / OSError out of `recv`), `writerFault` (OSError out of `sendall`).  The
tie to the real threads — where the fault hits, that `close()` lets accepted pool tasks finish and stops the
writer, that a read failure after the server's own `close()` is silent, that `close(); close()` raises
nothing — is the fault-injection co-simulation of both server kinds under the scheduler (harness/s_fault.py).
-/
namespace Ari

/-- **C20 (close request honoured).** With close packets expected, `0|CLOSE[|S|k|S|v…]` stops the server:
    stop flag + writer stopped, pool shut down (accepted tasks complete), socket closed — and nothing else:
    in particular no exception-handler call. -/
theorem c20_close (cfg : SrvCfg) (env : InitEnv) (st : RState) (line : String) (toks : List String)
    (kvs : List (Val × Val)) (hc : st.closeExpected = true)
    (hp : parseRequest line = some ("0", "CLOSE", toks)) (hm : readMap toks 0 = .ok kvs) :
    dispatch cfg env st line = ({ st with closed := true }, [.quit, .poolShutdown, .sockClose]) := by
  unfold dispatch classify
  simp only [hp, hc, hm, and_self, if_true, ne_eq, not_true_eq_false, if_false, act]

/-- **C20 (older agreed version: the line is ignored).** After an initialization that agreed a version without
    close packets, a CLOSE line is an unknown request: logged and dropped, state unchanged. -/
theorem c20_ignored (cfg : SrvCfg) (env : InitEnv) (st : RState) (line id : String) (toks : List String)
    (hc : st.closeExpected = false) (hi : st.initExpected = false)
    (hp : parseRequest line = some (id, "CLOSE", toks)) :
    dispatch cfg env st line = (st, [.discard]) := by
  have hk : "CLOSE" ≠ cfg.kind.method := by cases cfg.kind <;> decide
  unfold dispatch classify
  simp only [hp, hc, Bool.false_eq_true, and_false, if_false, hk]
  cases cfg.kind <;> simp [act, hi, metaMethods]

/-- **C20 (close request with another id).** A protocol error: exception handling only, the server keeps
    running. -/
theorem c20_bad_id (cfg : SrvCfg) (env : InitEnv) (st : RState) (line id : String) (toks : List String)
    (hc : st.closeExpected = true) (hid : id ≠ "0")
    (hp : parseRequest line = some (id, "CLOSE", toks)) :
    dispatch cfg env st line = (st, onException cfg) := by
  unfold dispatch classify
  simp only [hp, hc, and_self, if_true, ne_eq, hid, not_false_eq_true, act]

/-- **C20 (I/O failure).** The failure is reported to the application's handler exactly once iff one is
    installed, and the default reaction (process exit) happens iff no handler is installed or it returns a
    true value. -/
theorem c20_io_failure (cfg : SrvCfg) :
    onIoException cfg =
      (match cfg.ioHandler with
       | none => [IoAct.exit]
       | some true => [.handlerIo, .exit]
       | some false => [.handlerIo]) ∧
    writerFault cfg = onIoException cfg ∧
    (∀ st, st.closed = false → readerFault cfg st = onIoException cfg) := by
  refine ⟨?_, rfl, ?_⟩
  · unfold onIoException
    cases cfg.ioHandler with
    | none => rfl
    | some r => cases r <;> rfl
  · intro st h
    simp [readerFault, h]

/-- **C20 (a read failure caused by the server's own close() is not reported).** -/
theorem c20_read_after_close (cfg : SrvCfg) (st : RState) (h : st.closed = true) : readerFault cfg st = [] := by
  simp [readerFault, h]

/-- once closed, always closed; and only an honoured, well-formed close request closes. -/
theorem c20_closed_only_by_close (cfg : SrvCfg) (env : InitEnv) (st : RState) (line : String)
    (h : (dispatch cfg env st line).1.closed = true) :
    st.closed = true ∨ classify cfg st.closeExpected line = .closeOk := by
  rw [dispatch] at h; exact act_closed cfg env st _ h

end Ari
