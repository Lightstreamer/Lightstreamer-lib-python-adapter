import AriVerif.Props.C05
import AriVerif.Lemmas.Replies
/-!
# C07 — replies and notifications are well-formed and decode to the adapter's data

For every writer: (1) on well-typed data the line is `joinBar` of an explicit token list whose
*structure depends only on the shape of the data*; (2) no token contains the separator, CR or LF, so
splitting the line recovers the tokens; (3) the conforming decoder (Spec/Reply.lean) recovers exactly
the supplied data from those tokens; (4) a value of an unsupported type in any scalar slot or list
element yields the protocol error and no line.  Floats are opaque (`PyVal.float repr _`, DESIGN §2.2):
the line carries CPython's `repr` verbatim; that `float(repr(x)) == x` is CPython's contract and is
tested by the writers differential, not proved here.
-/
namespace Ari

def pyText : Option String → PyVal
  | none => .none
  | some s => .str s

/-- a float `repr` as CPython prints finite floats, `inf`, `nan`: no separator, no line break. -/
def FloatTok (r : String) : Prop := ∀ c ∈ r.toList, c ≠ '|' ∧ c ≠ '\r' ∧ c ≠ '\n'

def TokOk (t : String) : Prop := ∀ c ∈ t.toList, c ≠ '|' ∧ c ≠ '\r' ∧ c ≠ '\n'

/-- literal tokens are checked by evaluation. -/
instance (t : String) : Decidable (TokOk t) := by unfold TokOk; infer_instance

theorem W.bind_ok {α β} (a : α) (f : α → W β) : (Except.ok a >>= f) = f a := rfl

def OkOrRem {α} (x : W α) : Prop := (∃ a, x = .ok a) ∨ x = .error .remoting

theorem OkOrRem.bind {α β} {x : W α} {f : α → W β} (hx : OkOrRem x) (hf : ∀ a, OkOrRem (f a)) :
    OkOrRem (x >>= f) := by
  rcases hx with ⟨a, rfl⟩ | rfl
  · exact hf a
  · exact .inr rfl

theorem OkOrRem.bind_fails {α β} {x : W α} {f : α → W β} (hx : OkOrRem x)
    (h : x = .error .remoting ∨ ∀ a, f a = .error .remoting) : x >>= f = .error .remoting := by
  rcases hx with ⟨a, rfl⟩ | rfl
  · rcases h with h | h
    · cases h
    · exact h a
  · rfl

def namesToks (m : String) (xs : List (Option String)) : List String :=
  m :: xs.flatMap fun x => ["S", encodeString x]

theorem encStr_pyText (x : Option String) : encStr (pyText x) = .ok (encodeString x) := by
  cases x <;> rfl

theorem encStr_ok_or (v : PyVal) : OkOrRem (encStr v) := by
  cases v <;> simp [OkOrRem, encStr]

theorem writeNames_list (m : String) (xs : List PyVal) :
    writeNames m (.list xs) = (xs.mapM encStr).map fun ts => joinBar (m :: ts.flatMap fun t => ["S", t]) := by
  cases xs with
  | nil => exact congrArg Except.ok (joinBar_singleton m).symm
  | cons x xs =>
    simp only [writeNames, iterNames, W.bind_ok, List.mapM_cons]
    cases encStr x with
    | error e => rfl
    | ok t =>
      cases List.mapM encStr xs with
      | error e => rfl
      | ok ts => exact congrArg Except.ok (joinBar_S m _ (List.cons_ne_nil t ts))

theorem c07_names_line (m : String) (xs : List (Option String)) :
    writeNames m (.list (xs.map pyText)) = .ok (joinBar (namesToks m xs)) := by
  rw [writeNames_list, mapM_map_ok encStr pyText encodeString xs fun x _ => encStr_pyText x]
  simp only [Except.map, namesToks, List.flatMap_map]

theorem c07_names_decode (m : String) (xs : List (Option String)) :
    Spec.decodeNames (namesToks m xs).tail = some (xs.map Dec.val) :=
  decode_flatMap Spec.decodeNames _ _ rfl (fun x rest r h => by simp [Spec.decodeNames, h, c05_roundtrip]) xs

/-- a list element of an unsupported type (anything but `str`, `bytes`, `None`) → protocol error, no line. -/
theorem c07_names_type_guard (m : String) (xs : List PyVal) (x : PyVal) (hx : x ∈ xs)
    (hbad : encStr x = .error .remoting) : writeNames m (.list xs) = .error .remoting := by
  rw [writeNames_list, mapM_error encStr .remoting xs x hx hbad fun y _ => encStr_ok_or y]; rfl

/-- which values a text slot rejects: everything except `None`, `str`, `bytes`. -/
theorem c07_text_slot_guard (v : PyVal) :
    encStr v = .error .remoting ↔ (match v with | .none | .str _ | .bytes _ => False | _ => True) := by
  cases v <;> simp [encStr]

structure ItemRec where
  n : Int
  frepr : String
  fzero : Bool
  modes : Option (List Mode)

def ItemRec.toData (r : ItemRec) : ItemData :=
  ⟨.int r.n, .float r.frepr r.fzero, match r.modes with | none => .none | some ms => .list (ms.map fun m => .mode m.code)⟩

def modesTok : Option (List Mode) → String
  | none => "#"
  | some [] => "$"
  | some ms => String.ofList (ms.map Mode.code)

def itemDataToks (m : String) (rs : List ItemRec) : List String :=
  m :: rs.flatMap fun r => ["I", pyStrInt r.n, "D", r.frepr, "M", modesTok r.modes]

theorem foldlM_modes (ms : List Mode) (acc : String) :
    (ms.map fun m => PyVal.mode m.code).foldlM (m := W) (fun acc x => match x with
      | .mode c => .ok (acc ++ String.singleton c)
      | _ => .error .pyType) acc = .ok (acc ++ String.ofList (ms.map Mode.code)) := by
  induction ms generalizing acc with
  | nil => simp; rfl
  | cons m ms ih =>
    change List.foldlM _ (acc ++ String.singleton m.code) _ = _
    rw [ih, String.append_assoc]
    congr 2
    rw [← String.toList_inj]; simp

theorem encModes_modes (ms : Option (List Mode)) :
    encModes (match ms with | none => .none | some ms => .list (ms.map fun m => .mode m.code))
      = .ok (modesTok ms) := by
  match ms with
  | none => rfl
  | some [] => rfl
  | some (m :: ms) =>
    have := foldlM_modes (m :: ms) ""
    simp only [String.empty_append] at this
    exact this

theorem c07_itemdata_line (m : String) (rs : List ItemRec) :
    writeItemData m (rs.map ItemRec.toData) = .ok (joinBar (itemDataToks m rs)) := by
  unfold writeItemData itemDataToks
  cases rs with
  | nil => simp [joinBar_singleton]
  | cons r rs =>
    have hl := joinBar_line [m] (r :: rs)
      (fun r : ItemRec => ["I", pyStrInt r.n, "D", r.frepr, "M", modesTok r.modes]) (by simp) (by simp) (by simp)
    rw [joinBar_singleton] at hl
    rw [mapM_map_ok _ _ _ (r :: rs) (fun r _ => by
      simp only [ItemRec.toData, encModes_modes]; rfl)]
    exact congrArg Except.ok hl

theorem decodeModeSet_modesTok (ms : Option (List Mode)) :
    Spec.decodeModeSet (modesTok ms) = some (ms.map (·.map Mode.code)) := by
  match ms with
  | none => rfl
  | some [] => rfl
  | some (m :: ms) =>
    have h1 : String.ofList ((m :: ms).map Mode.code) ≠ "#" := by
      intro e
      have := congrArg String.toList e
      cases m <;> simp [Mode.code] at this
    have h2 : String.ofList ((m :: ms).map Mode.code) ≠ "$" := by
      intro e
      have := congrArg String.toList e
      cases m <;> simp [Mode.code] at this
    have h3 : (String.ofList ((m :: ms).map Mode.code)).toList.all
        (fun c => c = 'R' ∨ c = 'M' ∨ c = 'D' ∨ c = 'C') = true := by
      rw [String.toList_ofList, List.all_eq_true]
      intro c hc
      simp only [List.mem_map] at hc
      obtain ⟨m', _, rfl⟩ := hc
      cases m' <;> simp [Mode.code]
    rw [String.toList_ofList] at h3
    simp only [Spec.decodeModeSet, modesTok, if_neg h1, if_neg h2, String.toList_ofList, h3, if_true,
      Option.map_some]

/-- one (integer, float, mode-set) triple per item, in order; the mode set keeps the order supplied. -/
theorem c07_itemdata_decode (m : String) (rs : List ItemRec) :
    Spec.decodeItemData (itemDataToks m rs).tail =
      some (rs.map fun r => (r.n, r.frepr, r.modes.map (·.map Mode.code))) :=
  decode_flatMap Spec.decodeItemData _ _ rfl (fun x rest r h => by
    simp [Spec.decodeItemData, h, pyInt?_pyStrInt, decodeModeSet_modesTok]) rs

theorem encInt_ok_or (v : PyVal) : OkOrRem (encInt v) := by
  cases v <;> simp [OkOrRem, encInt]

theorem encDouble_ok_or (v : PyVal) : OkOrRem (encDouble v) := by
  cases v <;> simp [OkOrRem, encDouble]

theorem encBool_ok_or (v : PyVal) : OkOrRem (encBool v) := by
  cases v <;> simp [OkOrRem, encBool]

theorem c07_itemdata_type_guard (m : String) (ds : List ItemData) (d : ItemData) (hd : d ∈ ds)
    (hbad : encInt d.n = .error .remoting ∨ encDouble d.f = .error .remoting)
    (hmodes : ∀ d' ∈ ds, ∃ t, encModes d'.modes = .ok t) :
    writeItemData m ds = .error .remoting := by
  unfold writeItemData
  rw [if_neg (by cases ds <;> simp_all), mapM_error _ .remoting ds d hd]
  · rfl
  · rcases hbad with h | h
    · exact (encInt_ok_or d.n).bind_fails (.inl h)
    · exact (encInt_ok_or d.n).bind_fails (.inr fun a => (encDouble_ok_or d.f).bind_fails (.inl h))
  · intro y hy
    obtain ⟨t, ht⟩ := hmodes y hy
    exact (encInt_ok_or y.n).bind fun a => (encDouble_ok_or y.f).bind fun b => .inl ⟨_, by rw [ht]; rfl⟩

/-- an int slot rejects everything but `int` (in particular `bool`), a float slot everything but `float`
    (in particular `int`), a flag slot everything but `bool`. -/
theorem c07_scalar_guards (v : PyVal) :
    (encInt v = .error .remoting ↔ (match v with | .int _ => False | _ => True)) ∧
    (encDouble v = .error .remoting ↔ (match v with | .float _ _ => False | _ => True)) ∧
    (encBool v = .error .remoting ↔ (match v with | .bool _ => False | _ => True)) := by
  cases v <;> simp [encInt, encDouble, encBool]

theorem c07_notifyuser (m : String) (r : String) (z w : Bool) :
    writeNotifyUser m (.float r z) (.bool w) = .ok (joinBar [m, "D", r, "B", if w then "1" else "0"]) ∧
    Spec.decodeNotifyUser [("D" : String), r, "B", if w then "1" else "0"] = some (r, w) := by
  constructor
  · rfl
  · cases w <;> simp [Spec.decodeNotifyUser, Spec.decodeBool]

theorem c07_notifyuser_type_guard (m : String) (bw w : PyVal)
    (h : encDouble bw = .error .remoting ∨ encBool w = .error .remoting) :
    writeNotifyUser m bw w = .error .remoting := by
  rcases h with h | h
  · exact (encDouble_ok_or bw).bind_fails (.inl h)
  · exact (encDouble_ok_or bw).bind_fails (.inr fun a => (encBool_ok_or w).bind_fails (.inl h))

inductive FieldIn
  | text (v : Option String)
  | bytes (b : Bytes)

def FieldIn.toPy : FieldIn → PyVal
  | .text v => pyText v
  | .bytes b => .bytes b

def FieldIn.toks : FieldIn → List String
  | .text v => ["S", encodeString v]
  | .bytes b => ["Y", String.ofList (b64encode b)]

def FieldIn.decoded : FieldIn → Spec.FieldVal
  | .text v => .text (.val v)
  | .bytes b => .bytes b

def updateToks (item rid : Option String) (snap : Bool) (ev : List (Option String × FieldIn)) : List String :=
  ["UD3", "S", encodeString item, "S", encodeString rid, "B", if snap then "1" else "0"]
    ++ ev.flatMap fun (f, v) => ["S", encodeString f] ++ v.toks

theorem c07_b64_roundtrip (b : Bytes) : Spec.b64decode (b64encode b) = some b := by
  fun_induction b64encode b with
  | case1 => rfl
  | case2 a n =>
    have hn : n < 256 := a.toNat_lt
    rw [Spec.b64decode.eq_2, b64Val_b64Char _ (by omega), b64Val_b64Char _ (by omega)]
    simp only [Option.bind_eq_bind, Option.bind_some, Option.some.injEq, List.cons.injEq, and_true]
    exact u8_ofNat_eq _ _ (by omega)
  | case3 a b n m =>
    have hn : n < 256 := a.toNat_lt
    have hm : m < 256 := b.toNat_lt
    rw [Spec.b64decode.eq_3 _ _ _ (b64Char_ne_pad _ (by omega)), b64Val_b64Char _ (by omega),
      b64Val_b64Char _ (by omega), b64Val_b64Char _ (by omega)]
    simp only [Option.bind_eq_bind, Option.bind_some, Option.some.injEq, List.cons.injEq, and_true]
    exact ⟨u8_ofNat_eq _ _ (by omega), u8_ofNat_eq _ _ (by omega)⟩
  | case4 a b c rest n m k ih =>
    have hn : n < 256 := a.toNat_lt
    have hm : m < 256 := b.toNat_lt
    have hk : k < 256 := c.toNat_lt
    have hd := b64Char_ne_pad (k % 64) (by omega)
    -- the last equation of `b64decode` applies when the quad matches neither padded pattern: its 4th character is no `=`
    rw [Spec.b64decode.eq_4 _ _ _ _ _ (fun _ h _ => hd h) (fun h _ => hd h), b64Val_b64Char _ (by omega),
      b64Val_b64Char _ (by omega), b64Val_b64Char _ (by omega), b64Val_b64Char _ (by omega), ih]
    simp only [Option.bind_eq_bind, Option.bind_some, Option.some.injEq, List.cons.injEq, and_true]
    exact ⟨u8_ofNat_eq _ _ (by omega), u8_ofNat_eq _ _ (by omega), u8_ofNat_eq _ _ (by omega)⟩

theorem encodeValue_toPy (v : FieldIn) : encodeValue v.toPy = .ok (joinBar v.toks) := by
  match v with
  | .text none =>
    simp only [FieldIn.toks, joinBar_cons_cons, joinBar_singleton]
    rfl
  | .text (some s) =>
    simp only [FieldIn.toks, joinBar_cons_cons, joinBar_singleton]
    rfl
  | .bytes b =>
    simp only [FieldIn.toks, joinBar_cons_cons, joinBar_singleton]
    rfl

theorem updateField_ok (f : Option String) (v : FieldIn) :
    (do let f' ← encStr (pyText f)
        let x ← encodeValue v.toPy
        Except.ok (joinBar ["S", f', x]) : W String)
      = .ok (joinBar (["S", encodeString f] ++ v.toks)) := by
  rw [encStr_pyText, encodeValue_toPy]
  change Except.ok _ = _
  cases v <;> simp only [FieldIn.toks, joinBar_cons_cons, joinBar_singleton, List.cons_append, List.nil_append]

theorem c07_update_line (item rid : Option String) (snap : Bool) (ev : List (Option String × FieldIn)) :
    writeUpdateMap (pyText item) (pyText rid) (.bool snap)
        (if ev = [] then .none else .dict (ev.map fun (f, v) => (pyText f, v.toPy)))
      = .ok (joinBar (updateToks item rid snap ev)) := by
  unfold writeUpdateMap updateToks
  rw [encStr_pyText, encStr_pyText]
  simp only [encBool, W.bind_ok]
  cases ev with
  | nil => simp
  | cons kv ev =>
    have hl := joinBar_line
      ["UD3", "S", encodeString item, "S", encodeString rid, "B", if snap = true then "1" else "0"] (kv :: ev)
      (fun x : Option String × FieldIn => ["S", encodeString x.1] ++ x.2.toks) (by simp) (by simp) (by simp)
    simp only [reduceCtorEq, if_false, List.map_cons]
    rw [← List.map_cons (f := fun x : Option String × FieldIn => (pyText x.1, x.2.toPy)),
      mapM_map_ok _ _ _ (kv :: ev) (fun x _ => updateField_ok x.1 x.2)]
    exact congrArg Except.ok hl

theorem decodeEvents_toks (ev : List (Option String × FieldIn)) :
    Spec.decodeEvents (ev.flatMap fun (f, v) => ["S", encodeString f] ++ v.toks)
      = some (ev.map fun (f, v) => (.val f, v.decoded)) :=
  decode_flatMap Spec.decodeEvents _ _ rfl (fun (f, v) rest r h => by
    cases v <;> simp [FieldIn.toks, Spec.decodeEvents, h, c05_roundtrip, c07_b64_roundtrip, FieldIn.decoded]) ev

/-- ordered field/value pairs whose values may be text, bytes or None; any bytes value survives. -/
theorem c07_update_decode (item rid : Option String) (snap : Bool) (ev : List (Option String × FieldIn)) :
    Spec.decodeUpdate (updateToks item rid snap ev).tail =
      some (.val item, .val rid, snap, ev.map fun (f, v) => (.val f, v.decoded)) := by
  have hb : Spec.decodeBool (if snap then "1" else "0") = some snap := by
    cases snap <;> simp [Spec.decodeBool]
  have he := decodeEvents_toks ev
  unfold updateToks
  -- the event tokens and their decoding as variables, so that `simp` does not look inside them
  generalize List.flatMap _ ev = rest at he ⊢
  simp only [List.cons_append, List.nil_append, List.tail_cons, Spec.decodeUpdate, hb, he, c05_roundtrip]
  rfl

theorem encodeValue_ok_or (v : PyVal) : OkOrRem (encodeValue v) := by
  cases v <;> simp [OkOrRem, encodeValue, encBytes64, Except.map]

theorem c07_update_type_guard (item rid snap : PyVal) (kvs : List (PyVal × PyVal)) (hne : kvs ≠ [])
    (h : encStr item = .error .remoting ∨ encStr rid = .error .remoting ∨ encBool snap = .error .remoting ∨
         ∃ kv ∈ kvs, encStr kv.1 = .error .remoting ∨ encodeValue kv.2 = .error .remoting) :
    writeUpdateMap item rid snap (.dict kvs) = .error .remoting := by
  refine (encStr_ok_or item).bind_fails ?_
  rcases h with h | h
  · exact .inl h
  refine .inr fun i => (encStr_ok_or rid).bind_fails ?_
  rcases h with h | h
  · exact .inl h
  refine .inr fun r => (encBool_ok_or snap).bind_fails ?_
  rcases h with h | ⟨kv, hkv, hk⟩
  · exact .inl h
  refine .inr fun b => ?_
  cases kvs with
  | nil => exact absurd rfl hne
  | cons kv' kvs =>
    simp only []
    rw [mapM_error _ .remoting _ kv hkv]
    · rfl
    · rcases hk with hk | hk
      · exact (encStr_ok_or kv.1).bind_fails (.inl hk)
      · exact (encStr_ok_or kv.1).bind_fails (.inr fun f => (encodeValue_ok_or kv.2).bind_fails (.inl hk))
    · exact fun y _ => (encStr_ok_or y.1).bind fun f => (encodeValue_ok_or y.2).bind fun x => .inl ⟨_, rfl⟩

/-- a field value of any type other than `str`, `bytes`, `None` is rejected. -/
theorem c07_value_guard (v : PyVal) :
    encodeValue v = .error .remoting ↔ (match v with | .none | .str _ | .bytes _ => False | _ => True) := by
  cases v <;> simp [encodeValue, encBytes64, Except.map]

theorem c07_itemevent (item rid : Option String) :
    writeEos (pyText item) (pyText rid) = .ok (joinBar ["EOS", "S", encodeString item, "S", encodeString rid]) ∧
    writeCls (pyText item) (pyText rid) = .ok (joinBar ["CLS", "S", encodeString item, "S", encodeString rid]) ∧
    Spec.decodeItemEvent [("S" : String), encodeString item, "S", encodeString rid] = some (.val item, .val rid) := by
  refine ⟨?_, ?_, ?_⟩
  · unfold writeEos; rw [encStr_pyText, encStr_pyText]; rfl
  · unfold writeCls; rw [encStr_pyText, encStr_pyText]; rfl
  · simp only [Spec.decodeItemEvent, c05_roundtrip]

theorem c07_failure (msg : String) :
    writeFailure msg = joinBar ["FAL", "E", encodeString (some msg)] ∧
    decodeString (encodeString (some msg)) = .val (some msg) := by
  exact ⟨rfl, c05_roundtrip _⟩

def credToks (user password : Option String) : List String :=
  ["RAC"] ++ (match user with | some u => ["S", "user", "S", encodeString (some u)] | none => [])
    ++ (match password with | some p => ["S", "password", "S", encodeString (some p)] | none => [])
    ++ ["S", "enableClosePacket", "S", encodeString (some "true"), "S", "SDK", "S", encodeString (some "Python Adapter SDK")]

theorem c07_credentials_line (user password : Option String) :
    writeCredentials user password = joinBar (credToks user password) := by
  unfold writeCredentials
  have h0 : ("RAC|S|" : String) = "RAC" ++ "|S|" := by decide
  simp only [h0]
  rw [joinBar_S _ _ (by cases user <;> cases password <;> simp)]
  cases user <;> cases password <;> rfl

/-- user / password present iff configured (an empty string is the empty token `$`), close packets always
    requested, SDK always named. -/
theorem c07_credentials_decode (user password : Option String) :
    Spec.decodeParams (credToks user password).tail =
      some ((match user with | some u => [("user", Dec.val (some u))] | none => [])
        ++ (match password with | some p => [("password", Dec.val (some p))] | none => [])
        ++ [("enableClosePacket", .val (some "true")), ("SDK", .val (some "Python Adapter SDK"))]) := by
  cases user <;> cases password <;>
    simp only [credToks, List.cons_append, List.nil_append, List.tail_cons,
      Spec.decodeParams, c05_roundtrip, Option.map_some]

theorem c07_init_reply (m : String) (v : String) :
    writeInitOk m (some v) = joinBar [m, "S", "ARI.version", "S", encodeString (some v)] ∧
    writeInitOk m none = joinBar [m, "V"] ∧
    Spec.decodeParams [("S" : String), "ARI.version", "S", encodeString (some v)] = some [("ARI.version", .val (some v))] := by
  refine ⟨rfl, rfl, ?_⟩
  simp only [Spec.decodeParams, c05_roundtrip, Option.map_some]

theorem c07_shape :
    (∀ m xs, (namesToks m xs).length = 1 + 2 * xs.length) ∧
    (∀ m rs, (itemDataToks m rs).length = 1 + 6 * rs.length) ∧
    (∀ item rid snap ev, (updateToks item rid snap ev).length = 7 + 4 * ev.length) := by
  refine ⟨fun m xs => ?_, fun m rs => ?_, fun item rid snap ev => ?_⟩
  · rw [namesToks, List.length_cons, length_flatMap_const _ 2 _ fun _ => rfl, Nat.add_comm]
  · rw [itemDataToks, List.length_cons, length_flatMap_const _ 6 _ fun _ => rfl, Nat.add_comm]
  · rw [updateToks, List.length_append, length_flatMap_const _ 4 _ fun (_, v) => by cases v <;> rfl]
    rfl

theorem tokOk_encodeString (v : Option String) : TokOk (encodeString v) := fun c hc =>
  have h := (c05_no_sep v).2 c hc
  ⟨h.1, h.2.1, h.2.2.1⟩

/-- CR and LF are whitespace. -/
theorem CleanTok.tokOk {t : String} (h : CleanTok t) : TokOk t := fun c hc => by
  have h := h.2 c hc
  refine ⟨h.1, ?_, ?_⟩ <;> (intro e; subst e; exact absurd h.2 (by decide))

theorem tokOk_pyStrInt (i : Int) : TokOk (pyStrInt i) := (pyStrInt_clean i).tokOk

theorem tokOk_modesTok (ms : Option (List Mode)) : TokOk (modesTok ms) := by
  match ms with
  | none => simp [modesTok, TokOk]
  | some [] => simp [modesTok, TokOk]
  | some (m :: ms) =>
    intro c hc
    simp only [modesTok, String.toList_ofList, List.mem_map] at hc
    obtain ⟨m', _, rfl⟩ := hc
    cases m' <;> simp [Mode.code]

theorem tokOk_b64 (b : Bytes) : TokOk (String.ofList (b64encode b)) := fun c hc => by
  rw [String.toList_ofList] at hc
  exact b64encode_clean b c hc

theorem tokOk_fieldToks (v : FieldIn) : ∀ t ∈ v.toks, TokOk t := by
  cases v <;>
    simp only [FieldIn.toks, List.forall_mem_cons, List.not_mem_nil, false_imp_iff, implies_true, tokOk_encodeString,
      tokOk_b64] <;>
    decide

/-- every token of every well-typed line is free of the separator, CR and LF … -/
theorem c07_tokens_ok :
    (∀ m xs, TokOk m → ∀ t ∈ namesToks m xs, TokOk t) ∧
    (∀ m rs, TokOk m → (∀ r ∈ rs, FloatTok r.frepr) → ∀ t ∈ itemDataToks m rs, TokOk t) ∧
    (∀ item rid snap ev, ∀ t ∈ updateToks item rid snap ev, TokOk t) ∧
    (∀ user password, ∀ t ∈ credToks user password, TokOk t) := by
  refine ⟨?_, ?_, ?_, ?_⟩
  · intro m xs hm
    simp only [namesToks, List.forall_mem_cons, List.forall_mem_flatMap, List.not_mem_nil, false_imp_iff,
      implies_true, tokOk_encodeString, hm, true_and]
    intro _ _; decide
  · intro m rs hm hf
    simp only [itemDataToks, List.forall_mem_cons, List.forall_mem_flatMap, List.not_mem_nil, false_imp_iff,
      implies_true, tokOk_pyStrInt, tokOk_modesTok, hm, true_and]
    exact fun r hr => ⟨by decide, by decide, hf r hr, by decide⟩
  · intro item rid snap ev
    simp only [updateToks, List.forall_mem_append, List.forall_mem_cons, List.forall_mem_flatMap, List.not_mem_nil,
      false_imp_iff, implies_true, tokOk_encodeString]
    refine ⟨⟨by decide, by decide, by decide, by decide, by cases snap <;> decide⟩, fun x _ => ⟨by decide, tokOk_fieldToks x.2⟩⟩
  · intro user password
    cases user <;> cases password <;>
      simp only [credToks, List.cons_append, List.nil_append, List.forall_mem_cons,
        List.not_mem_nil, false_imp_iff, implies_true, tokOk_encodeString] <;>
      decide

/-- … hence the line contains no CR/LF and splitting it at `|` recovers exactly the tokens. -/
theorem c07_line_splits (toks : List String) (hne : toks ≠ []) (h : ∀ t ∈ toks, TokOk t) :
    splitBar (joinBar toks) = toks ∧ ∀ c ∈ (joinBar toks).toList, c ≠ '\r' ∧ c ≠ '\n' := by
  constructor
  · exact splitBar_joinBar toks hne (fun t ht c hc => (h t ht c hc).1)
  · exact forall_mem_joinBar toks (by decide) (fun t ht c hc => (h t ht c hc).2)

-- concrete instances from the repository's tests (tests, labelled as such)
example : writeNames "GIS" (.list [.str "item 1", .str "item2"]) = .ok "GIS|S|item+1|S|item2" := by decide +kernel
example : writeItemData "GIT" [⟨.int 30, .float "0.3" false, .list [.mode 'R', .mode 'M']⟩]
    = .ok "GIT|I|30|D|0.3|M|RM" := by decide +kernel
example : writeNames "GIS" (.list [.int 0]) = .error .remoting := by decide +kernel

end Ari
