import AriVerif.Props.C04
import AriVerif.Conc.MetaProj
/-!
# C04 / C16 on the whole-Metadata-server model

`Conc.MetaSrv` is the model the real `MetadataProviderServer` is compared with chunk by chunk (start-up, reader
with framing and dispatch, pool threads, send queue, writer).  `Conc/MetaProj.lean` shows that its pool
component only ever moves by `pstep` runs, so the pool theorems of Props/C04.lean hold in every state the
server model can reach — for every schedule of reader, writer and pool threads, every pool size, every chunking
of the inbound bytes and every adapter outcome — and that a reply, once produced, is on its way to the wire.
-/
namespace Ari.Conc

/-- **C04 on the server model: one outcome per request.** -/
theorem c04s_once {cfg : SrvCfg} {n : Nat} {s : MState} {log : List String} (h : MReach cfg n s log) :
    ∀ t ∈ s.pool.tasks, (t.pc.isDone = false → t.replied = 0 ∧ t.notified = 0) ∧
                        (t.pc.isDone = true → t.replied + t.notified = 1) :=
  c04_once n s.pool (mreach_pool h)

/-- **C04 on the server model: the reply is the closure's result under the request's own id.** -/
theorem c04s_reply_is_result {cfg : SrvCfg} {n : Nat} {s : MState} {log : List String} (h : MReach cfg n s log) :
    ∀ t ∈ s.pool.tasks, ∀ line, t.pc = .put line →
      ∃ body, taskNext t = .inr (.reply body) ∧ line = t.rid ++ "|" ++ body :=
  c04_reply_is_result n s.pool (mreach_pool h)

/-- **C04 on the server model: as many pool replies as tasks that replied, all of them enqueued, in order,
    and — once the writer has drained the queue, no write having failed (`wthr ≠ 4`: a failed write loses the message the
    writer held, Conc/MetaFault.lean) — all of them written.** -/
theorem c04s_replies_reach_the_wire {cfg : SrvCfg} {n : Nat} {s : MState} {log : List String}
    (h : MReach cfg n s log) :
    s.pool.out.length = (s.pool.tasks.map (·.replied)).sum ∧ s.pool.out.Sublist log ∧
    (s.wthr ≠ 4 → s.sendQ = [] → s.wsend = none → s.pool.out.Sublist s.written) :=
  ⟨c04_out_count n s.pool (mreach_pool h), mreach_out_sublist h, mreach_drained h⟩

/-- **C16 on the server model: written ++ held ++ queued is exactly what was enqueued, in enqueue order**
    (nothing lost, duplicated or reordered between any producer and the writer) as long as no write has failed; what is on
    the wire is always a prefix of what was enqueued; and a failed write (`wthr = 4`) loses at most the one message the
    writer held: the log is written ++ lost ++ held ++ queued with `lost` of length at most 1, empty if no write failed. -/
theorem c16s_meta_fifo {cfg : SrvCfg} {n : Nat} {s : MState} {log : List String} (h : MReach cfg n s log) :
    (s.wthr ≠ 4 → pending s = log) ∧ s.written <+: log ∧
    ∃ lost : List String, lost.length ≤ 1 ∧ (s.wthr ≠ 4 → lost = []) ∧
      log = s.written ++ lost ++ s.wsend.toList ++ s.sendQ.filterMap id :=
  ⟨mreach_pending h, mreach_written_prefix h, (mreach_pending_lost h).2⟩

/-- non-vacuity: a Metadata server that received an init request and one NSC request in a single read is
    `MReach`able with the credentials message and the init reply written and one pool task submitted (the pool
    thread's own steps parse the thread name with `String.toNat?`, which the kernel does not evaluate; they are
    exercised by the co-simulation). -/
example : ∃ s log, MReach { kind := .metaK, excHandler := none, ioHandler := none, keepAlive := some 0 } 1 s log ∧
    s.written.length = 2 ∧ s.pool.tasks.length = 1 := by
  let cfg : SrvCfg := { kind := .metaK, excHandler := none, ioHandler := none, keepAlive := some 0 }
  let steps : List (String × MOp) :=
    [("M", .threadStart), ("M", .put), ("R", .threadStart), ("W", .threadStart),
     ("P", .deliver "1|MPI|S|ARI.version|S|1.8.3\r\n2|NSC|S|sess\r\n"), ("R", .recv), ("R", .put),
     ("W", .get), ("W", .send), ("W", .get), ("W", .send)]
  have hrun : ∃ s', (steps.foldlM (fun (st : MState) (x : String × MOp) => (mstep st {} x.1 x.2).map (·.1)) (MInit cfg 1)) = some s' ∧
      s'.written.length = 2 ∧ s'.pool.tasks.length = 1 := by
    decide +kernel
  obtain ⟨s', hs', h3, h1⟩ := hrun
  obtain ⟨log', hr⟩ := foldlM_option_inv (P := fun st => ∃ lg, MReach cfg 1 st lg) steps (fun a _ st st' ⟨lg, hst⟩ hf => by
    obtain ⟨r, hm, rfl⟩ := Option.map_eq_some_iff.1 hf
    exact ⟨_, hst.step hm⟩) ⟨[], MReach.init⟩ hs'
  exact ⟨s', log', hr, h3, h1⟩

end Ari.Conc
