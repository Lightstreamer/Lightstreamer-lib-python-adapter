import AriVerif.Lemmas.Dispatch
/-!
# C10 — initialization gates everything: first, once, before any other adapter call

The reader thread is sequential: `dispatchAll cfg env st lines` is the list, per line and in program order,
of what it does (adapter `initialize` / `set_listener` run *on the reader thread*; every other adapter
method runs in a pool task created by a `.submit` / `.dataReq` action, hence after it).  Tied to the real
`Server.on_received_request` of both server kinds by the `reader-dispatch` differential of
harness/s_dispatch.py.
-/
namespace Ari

def isInitLine (cfg : SrvCfg) (line : String) : Bool :=
  match parseRequest line with
  | some (_, m, _) => m == cfg.kind.method
  | none => false

theorem classify_init_iff (cfg : SrvCfg) (ce : Bool) (line : String) :
    (∃ id prs, classify cfg ce line = .initReq id prs) ↔ isInitLine cfg line = true := by
  unfold classify isInitLine
  have hk : cfg.kind.method ≠ "CLOSE" := by cases cfg.kind <;> decide
  cases hp : parseRequest line with
  | none => simp
  | some t =>
    obtain ⟨id, m, toks⟩ := t
    by_cases hm : m = cfg.kind.method
    · subst hm
      simp only [hk, false_and, if_false, if_true, beq_self_eq_true, iff_true]
      split <;> exact ⟨_, _, rfl⟩
    · have hm' : (m == cfg.kind.method) = false := by simpa using hm
      simp only [hm, hm', if_false]
      constructor
      · -- no other branch of `classify` answers `.initReq`
        rintro ⟨id', prs, h⟩
        repeat' split at h
        all_goals cases h
      · intro h; cases h

/-- **C10 (rejected before init).** While the init request is awaited, every request that is neither an init
    request nor an honoured close request — a request of the server's own methods (well-formed or not) or of
    an unknown method — is a protocol error: exception handling only (no adapter call, no reply, no work) and
    the state is unchanged. -/
theorem c10_reject_before_init (cfg : SrvCfg) (env : InitEnv) (st : RState) (hi : st.initExpected = true)
    (c : LineClass) (hc : (∃ m id toks item, c = .own m id toks item) ∨ c = .ownBad ∨ c = .unknown) :
    act cfg env st c = (st, onException cfg) := by
  rcases hc with ⟨m, id, toks, item, rfl⟩ | rfl | rfl <;> simp [act, hi]

/-- **C10 (a second init request is rejected).** -/
theorem c10_reject_second_init (cfg : SrvCfg) (env : InitEnv) (st : RState) (hi : st.initExpected = false)
    (id : String) (prs : Option (List (Val × Val))) :
    act cfg env st (.initReq id prs) = (st, onException cfg) := by
  simp [act, hi]

/-- **C10 (initialize / set_listener only for an init request, only while awaited, and the slot is then
    consumed).** -/
theorem c10_initialize_only_first (cfg : SrvCfg) (env : InitEnv) (st : RState) (c : LineClass)
    (a : RAct) (ha : a ∈ (act cfg env st c).2) (hi : a.isInitialize = true ∨ a.isListener = true) :
    st.initExpected = true ∧ (∃ id prs, c = .initReq id (some prs)) ∧ (act cfg env st c).1.initExpected = false := by
  rcases act_actions cfg env st c with h | ⟨_, b, h, hb⟩ | ⟨h1, id, prs, rfl⟩
  · have := h a ha; simp [this.1, this.2.1] at hi
  · simp only [h, List.mem_singleton] at ha; subst ha
    cases a <;> simp_all [RAct.isWork, RAct.isInitialize, RAct.isListener]
  · exact ⟨h1, ⟨id, prs, rfl⟩, by rw [act_initExpected, h1]; rfl⟩

/-- `set_listener` is only ever called after `initialize` was. -/
theorem onInit_listener_args (i : InitIn) (h : (onInit i).listenerCalled = true) :
    ∃ a f, (onInit i).initArgs = some (a, f) := by
  revert h
  unfold onInit
  simp only []
  -- refused version, failed `initialize`: no listener call; every other branch has called `initialize`
  split
  · exact fun h => nomatch h
  · split
    · exact fun h => nomatch h
    · split <;> exact fun _ => ⟨_, _, rfl⟩

/-- inside the processing of the init request the order is: `initialize`, then (Data) `set_listener`, then
    the reply. -/
theorem c10_init_order (cfg : SrvCfg) (env : InitEnv) (st : RState) (id : String) (prs : List (Val × Val))
    (hi : st.initExpected = true) :
    ∃ pre l, (act cfg env st (.initReq id (some prs))).2 = pre ++ [.reply l] ∧
      (pre = [] ∨ (∃ a f, pre = [.initialize a f]) ∨ (∃ a f, pre = [.initialize a f, .setListener])) := by
  simp only [act, hi, Bool.not_true, Bool.false_eq_true, if_false]
  have hshape := onInit_listener_args ⟨cfg.kind, prs, cfg.localParams, cfg.configFile, st.closeExpected, cfg.keepAlive,
                         env.hintValue, env.initOutcome, env.listenerOutcome⟩
  generalize (onInit _) = o at hshape ⊢
  by_cases hl : o.listenerCalled = true
  · obtain ⟨a, f, haf⟩ := hshape hl
    refine ⟨[.initialize a f, .setListener], id ++ "|" ++ o.reply, ?_, Or.inr (Or.inr ⟨a, f, rfl⟩)⟩
    simp only [haf, hl]
    rfl
  · cases haf : o.initArgs with
    | none =>
      refine ⟨[], id ++ "|" ++ o.reply, ?_, Or.inl rfl⟩
      simp only [hl]
      rfl
    | some p =>
      obtain ⟨a, f⟩ := p
      refine ⟨[.initialize a f], id ++ "|" ++ o.reply, ?_, Or.inr (Or.inl ⟨a, f, rfl⟩)⟩
      simp only [hl]
      rfl

/-- **C10 (work only after the init slot was consumed).** A request is handed to the pool / subscription
    manager only when the init request has already been processed (so `initialize` — which runs synchronously
    on the reader thread while the init request is processed — has returned before). -/
theorem c10_work_after_init (cfg : SrvCfg) (env : InitEnv) (st : RState) (c : LineClass)
    (a : RAct) (ha : a ∈ (act cfg env st c).2) (hw : a.isWork = true) : st.initExpected = false := by
  rcases act_actions cfg env st c with h | ⟨h0, _⟩ | ⟨h1, id, prs, rfl⟩
  · have := (h a ha).2.2.2; simp [this] at hw
  · exact h0
  · obtain ⟨pre, l, hpl, hpre⟩ := c10_init_order cfg env st id prs h1
    rw [hpl] at ha
    rcases hpre with rfl | ⟨_, _, rfl⟩ | ⟨_, _, rfl⟩ <;> simp at ha <;>
      (rcases ha with rfl | rfl | rfl <;> simp [RAct.isWork] at hw)

def countInit (acts : List (List RAct)) : Nat := (acts.flatten.filter RAct.isInitialize).length

/-- the open init slot is the one credit `initialize` can be paid from. -/
theorem act_init_credit (cfg : SrvCfg) (env : InitEnv) (st : RState) (c : LineClass) :
    ((act cfg env st c).2.filter RAct.isInitialize).length + (act cfg env st c).1.initExpected.toNat
      ≤ st.initExpected.toNat := by
  rw [act_initExpected]
  rcases act_actions cfg env st c with h | ⟨h0, b, h, hb⟩ | ⟨h1, id, prs, rfl⟩
  · rw [List.filter_eq_nil_iff.mpr fun a ha => by simp [(h a ha).1]]
    cases st.initExpected <;> cases c.isInit <;> decide
  · rw [h0]; cases b <;> simp_all [RAct.isWork, RAct.isInitialize]
  · obtain ⟨pre, l, hpl, hpre⟩ := c10_init_order cfg env st id prs h1
    rw [hpl, h1]
    rcases hpre with rfl | ⟨a, f, rfl⟩ | ⟨a, f, rfl⟩ <;> simp [List.filter, RAct.isInitialize, LineClass.isInit]

theorem countInit_le (cfg : SrvCfg) (env : InitEnv) (lines : List String) (st : RState) :
    countInit (dispatchAll cfg env st lines).2 ≤ st.initExpected.toNat := by
  induction lines generalizing st with
  | nil => exact Nat.zero_le _
  | cons l rest ih =>
    have h1 := act_init_credit cfg env st (classify cfg st.closeExpected l)
    have h2 := ih (dispatch cfg env st l).1
    rw [dispatchAll_cons]
    simp only [countInit, List.flatten_cons, List.filter_append, List.length_append] at h2 ⊢
    unfold dispatch at *; omega

/-- **C10 (at most once).** Over any sequence of lines `initialize` is invoked at most once, and not at all
    once the init slot has been consumed. -/
theorem c10_once (cfg : SrvCfg) (env : InitEnv) (lines : List String) (st : RState) :
    countInit (dispatchAll cfg env st lines).2 ≤ 1 ∧
    (st.initExpected = false → countInit (dispatchAll cfg env st lines).2 = 0) := by
  have h := countInit_le cfg env lines st
  refine ⟨Nat.le_trans h (Bool.toNat_le _), fun hi => ?_⟩
  rw [hi] at h; exact Nat.le_zero.mp h

/-- **C10 (work comes after the first init request).** If some line hands a request to the pool or the
    subscription manager, the init slot had been consumed by an earlier line. -/
theorem c10_work_needs_earlier_init (cfg : SrvCfg) (env : InitEnv) (lines : List String) (st : RState)
    (hi : st.initExpected = true) (j : Nat) (acts : List RAct)
    (hj : (dispatchAll cfg env st lines).2[j]? = some acts) (a : RAct) (ha : a ∈ acts) (hw : a.isWork = true) :
    ∃ i, i < j ∧ ∃ l, lines[i]? = some l ∧ isInitLine cfg l = true := by
  induction lines generalizing st j with
  | nil => simp [dispatchAll] at hj
  | cons l rest ih =>
    simp only [dispatchAll] at hj
    cases j with
    | zero =>
      simp at hj; subst hj
      have := c10_work_after_init cfg env st _ a ha hw
      simp [hi] at this
    | succ j =>
      by_cases hn : (dispatch cfg env st l).1.initExpected = true
      · obtain ⟨i, hij, l', hl', hinit⟩ := ih _ hn j hj
        exact ⟨i + 1, by omega, l', by simpa using hl', hinit⟩
      · -- the slot was consumed by this very line: it is an init request
        refine ⟨0, by omega, l, rfl, (classify_init_iff cfg st.closeExpected l).mp ?_⟩
        rw [dispatch, act_initExpected, hi] at hn
        generalize classify cfg st.closeExpected l = c at hn
        cases c <;> simp [LineClass.isInit] at hn
        exact ⟨_, _, rfl⟩

end Ari
