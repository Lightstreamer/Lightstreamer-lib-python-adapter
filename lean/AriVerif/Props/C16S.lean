import AriVerif.Conc.DataFifo
import AriVerif.Props.C01
/-!
# C16 / C14 on the whole-Data-server model

`Conc.Data` is the model the real `DataProviderServer` is compared with chunk by chunk (start-up, reader with
framing and dispatch, pool threads running the per-item dequeuers, adapter-owned threads calling the listener,
send queue, writer).  `GReachL n user password s log` quantifies over every schedule of all of these, every pool
size, every chunking of the inbound bytes and every adapter outcome; `log` is the ghost sequence of all lines
any thread enqueued.  The theorems connect the per-item machine (`IState.out`, subject of C01 / C03 / C17 and
of `c16_inside`) with what is written to the connection.
-/
namespace Ari.Conc

/-- **C16 on the server model: one queue, FIFO, nothing lost, duplicated or reordered.** Written ++ held by the
    writer ++ queued is exactly the sequence of lines enqueued as long as no write has failed; what is on the wire is always
    a prefix of what was enqueued; and a failed write (`wpc = .failed`) loses at most the one message the writer held: the
    log is written ++ lost ++ held ++ queued with `lost` of length at most 1, empty if no write failed. -/
theorem c16s_data_fifo {n : Nat} {u p : Option String} {s : DState} {log : List String}
    (h : GReachL n u p s log) :
    (s.wpc ≠ .failed → gpending s = log) ∧ s.written <+: log ∧
    ∃ lost : List String, lost.length ≤ 1 ∧ (s.wpc ≠ .failed → lost = []) ∧
      log = s.written ++ lost ++ gholding s ++ s.sendQ.filterMap id :=
  ⟨greach_pending h.toH, greach_written_prefix h.toH, greach_pending_lost h.toH⟩

/-- **C16 on the server model: an item's lines keep their order on the way to the wire.** The per-item
    outbound sequence — replies, library end-of-snapshots and listener events in the order the item machine
    enqueued them (events from inside `subscribe()` before the reply by `c16_inside`, the library EOS before both
    by C17) — is embedded in order in the global enqueue log. -/
theorem c16s_item_order {n : Nat} {u p : Option String} {s : DState} {log : List String}
    (h : GReachL n u p s log) (item : String) : (getItem s item).out.Sublist log :=
  greach_item_sublist h.toH item

/-- once the writer has drained the queue, every line of every item is on the wire, in the item's order. -/
theorem c16s_item_written {n : Nat} {u p : Option String} {s : DState} {log : List String}
    (h : GReachL n u p s log) (hq : s.sendQ = []) (hw : s.wpc = .get) (item : String) :
    (getItem s item).out.Sublist s.written := by
  have := greach_pending h.toH (by rw [hw]; simp)
  have hs := greach_item_sublist h.toH item
  rw [← this] at hs
  simpa [gpending, gholding, hq, hw] using hs

/-- **C14 on the server model: the first line ever enqueued (hence written) is the credentials message.** -/
theorem c14s_first {n : Nat} {u p : Option String} {s : DState} {log : List String}
    (h : GReachL n u p s log) :
    ∀ m rest, s.written = m :: rest → m = "1|" ++ writeCredentials u p := by
  intro m rest hm
  obtain ⟨t, ht⟩ := greach_written_prefix h.toH
  rw [hm] at ht
  exact greach_first h.toH m (rest ++ t) (by simpa using ht.symm)

/-- **C01 on the server model.** In every reachable server state no request of any item is answered twice
    (the per-item theorems apply to every component of the product). -/
theorem c01s_at_most_once {n : Nat} {u p : Option String} {s : DState} {log : List String}
    (h : GReachL n u p s log) (item : String) (hwf : WF (getItem s item).arr) :
    (getItem s item).repl.Nodup :=
  c01_at_most_once item _ (greachH_items_reach h.toH item) hwf

/-- for the non-vacuity example: a concrete run without `listener.failure()` calls stays inside `GReachL`. -/
theorem greachL_run {n : Nat} {u p : Option String} (l : List (String × OpClass × String)) :
    ∀ (s : DState) (log : List String), GReachL n u p s log →
    (∀ x ∈ l, ∀ msg, x.2.1 ≠ .failurePut msg) →
    ∀ s', (l.foldlM (fun (st : DState) (x : String × OpClass × String) => (gstep st x.1 x.2.1 x.2.2).map (·.1)) s) = some s' →
    ∃ log', GReachL n u p s' log' := fun s log h hnf s' hs =>
  (greachH_run l s log h.toH hnf s' hs).imp fun _ => GReachH.toL

/-- non-vacuity: the start-up of a Data server with configured credentials, the writer writing the credentials
    message (pool-thread steps parse the thread name with `String.toNat?`, which the kernel does not evaluate;
    item-level runs are exercised in Props/C01.lean and by the co-simulation). -/
example : ∃ s log, GReachL 2 (some "user") (some "") s log ∧ s.written.length = 1 ∧ gpending s = s.written := by
  let steps : List (String × OpClass × String) :=
    [("M", .threadStart, ""), ("M", .put, ""), ("W", .threadStart, ""), ("W", .get false, ""), ("W", .send, "")]
  have hrun : ∃ s', (steps.foldlM (fun (st : DState) (x : String × OpClass × String) => (gstep st x.1 x.2.1 x.2.2).map (·.1))
      { poolN := 2, user := some "user", password := some "" }) = some s' ∧ s'.written.length = 1 ∧ gpending s' = s'.written := by
    decide +kernel
  obtain ⟨s', hs', h1, h2⟩ := hrun
  obtain ⟨log', hr⟩ := greachL_run steps _ _ (GReachL.init (n := 2)) (no_failurePut rfl) s' hs'
  exact ⟨s', log', hr, h1, h2⟩

end Ari.Conc
