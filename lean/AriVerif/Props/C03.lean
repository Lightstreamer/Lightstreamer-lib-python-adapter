import AriVerif.Conc.PropLemmas
/-!
# C03 — item events reach the live subscription: none lost, mis-tagged or stale
A listener call is two steps: `lsnRead` (reads the published id under the manager lock: `readCode s`) and
`lsnPut` (enqueues the line built with that id).  Ghost: `execd` = ids published so far, `fwd` = the
subscription whose forwarding window is open (set when `subscribe()` begins, closed when it raises or when
the matching `unsubscribe()` begins), `cleared` = an unsubscription is fully processed and no newer
subscription published.
-/
namespace Ari.Conc

/-- **C03 (not stale).** An id that is read is always the most recently published one. -/
theorem c03_not_stale (s : IState) (h : Inv s) (r : String) (hr : readCode s = some r) :
    s.execd.getLast? = some r :=
  h.sem.codeLast r hr  -- `(view s).code` is `readCode s`, `(view s).execd` is `s.execd` (by definition of `view`)

/-- **C03 (tag).** The id an event is tagged with is the id of a subscription request of this item that the
    library executed (not skipped). -/
theorem c03_tag (s : IState) (h : Inv s) (r : String) (hr : readCode s = some r) :
    ∃ t, t ∈ s.arr ∧ t.id = r ∧ t.isSub = true ∧ t ∉ s.late :=
  h.execdArr r (List.mem_of_getLast? (c03_not_stale s h r hr))

/-- **C03 (forward).** While the forwarding window of subscription `r` is open, every listener call reads
    `r` — the event is forwarded with that subscription's id, never dropped. -/
theorem c03_forward (s : IState) (h : Inv s) (r : String) (hf : s.fwd = some r) : readCode s = some r := by
  rcases h.fwdShape r hf with ⟨k, t, hk, hp, rfl⟩ | ⟨k, t, l, hk, hp, hs, hnl, _, rfl⟩ |
      ⟨hb, _, t, hl, hs, hnl, rfl⟩ | ⟨k, t', hk, hp, t, hl, rfl⟩
  · exact h.codePublished k hk t (by simp [hp, Pc.published])
  · exact h.codeReply k hk t l hp hs hnl
  · exact h.codeExec hb t hl hs hnl
  · exact h.codeUsb k hk t' hp t hl

/-- the window really opens when `subscribe()` begins. -/
theorem c03_window_opens (s s' : IState) (e : List Eff) (k : Nat) (t : Task) (hk : k < s.ninst)
    (hpc : (s.insts k).pc = .callBegin .sub t) (h : istep s (.callBegin k) = some (s', e)) :
    s'.fwd = some t.id := by
  obtain ⟨rfl, rfl⟩ := (IStep.callBegin hk hpc).unique h
  rfl

/-- **C03 (drop).** An event submitted while the item was never subscribed, or after its unsubscription was
    fully processed, is dropped. -/
theorem c03_drop (s : IState) (h : Inv s) (hd : s.execd = [] ∨ s.cleared = true) : readCode s = none := by
  rcases hd with hd | hd
  · exact h.codeNever hd
  · exact h.clearedNone hd

/-- the listener step builds its line from exactly the id it read, for the item it was called for. -/
theorem c03_read_builds_line (s s' : IState) (e : List Eff) (w : Nat) (kind : LKind)
    (h : istep s (.lsnRead (.ext w) kind) = some (s', e)) :
    s'.ext w = (readCode s).bind (fun r => eventLine s.item r kind) := by
  cases IStep.of_istep h
  simp

end Ari.Conc
