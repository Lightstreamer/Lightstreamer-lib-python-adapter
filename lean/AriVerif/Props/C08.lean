import AriVerif.Errors
import AriVerif.Gen.Docs
import AriVerif.Props.C05
import AriVerif.Lemmas.Wire
/-!
# C08 — adapter exceptions map to the protocol's error subtype, payload intact

All statements are over `subtypeCode` / `writeError`, which read the tables **generated from the
source on every run** (`Gen.excMap` from `protocol._EXCEPTIONS_MAP`, `Gen.parents` from the class
statements of interfaces/*.py, `Gen.designated` from the `_handle_exception(…)` /
`_write_init(…)` call in every `write_*` function).  `Spec.ariCode` is the designation table
written from the property text and the `:raises` clauses of the adapter interfaces.
-/
namespace Ari

namespace Spec
/-- subtype code ARI designates for class `cls` raised by the adapter method behind wire method `m`
    (`none` = generic error). -/
def ariCode (m cls : String) : Option Char :=
  let tbl : List (String × List (String × Char)) := [
    ("DPI", [("DataProviderError", 'D')]),
    ("MPI", [("MetadataProviderError", 'M')]),
    ("SUB", [("SubscribeError", 'U'), ("FailureError", 'F')]),
    ("USB", [("SubscribeError", 'U'), ("FailureError", 'F')]),
    ("NUS", [("AccessError", 'A'), ("CreditsError", 'C')]),
    ("NUA", [("AccessError", 'A'), ("CreditsError", 'C')]),
    ("NNS", [("CreditsError", 'C'), ("NotificationError", 'N'), ("ConflictingSessionError", 'X')]),
    ("NSC", [("NotificationError", 'N')]),
    ("GIS", [("ItemsError", 'I')]),
    ("GSC", [("ItemsError", 'I'), ("SchemaError", 'S')]),
    ("GIT", []), ("GUI", []),
    ("NUM", [("CreditsError", 'C'), ("NotificationError", 'N')]),
    ("NNT", [("CreditsError", 'C'), ("NotificationError", 'N')]),
    ("NTC", [("NotificationError", 'N')]),
    ("MDA", [("CreditsError", 'C'), ("NotificationError", 'N')]),
    ("MSA", [("CreditsError", 'C'), ("NotificationError", 'N')]),
    ("MDC", [("CreditsError", 'C'), ("NotificationError", 'N')])]
  (lookup m tbl).bind (lookup cls)
end Spec

def methods18 : List String :=
  ["DPI", "SUB", "USB", "MPI", "NUS", "NUA", "NNS", "NSC", "GIS", "GSC", "GIT", "GUI", "NUM", "NNT",
   "NTC", "MDA", "MSA", "MDC"]

/-- the library's exception classes (incl. the two abstract bases). -/
def libClasses : List String :=
  ["MetadataProviderError", "NotificationError", "AccessError", "ItemsError", "SchemaError",
   "CreditsError", "ConflictingSessionError", "DataProviderError", "SubscribeError", "FailureError",
   "MetadataError", "DataError"]

/-- **C08 (the table).** For all 18 methods and every library exception class the subtype the error
    reply carries is the one ARI designates (ConflictingSessionError is specified for
    `notify_new_session` only). -/
theorem c08_table : ∀ m ∈ methods18, ∀ cls ∈ libClasses,
    (cls = "ConflictingSessionError" → m = "NNS") →
    subtypeCode m (mroOf cls) = Spec.ariCode m cls := by
  decide +kernel

/-- classes the adapter interface documents (`:raises` clauses, **generated from the docstrings on
    every run**) for the adapter methods the `_on_<m>` handler calls (**generated from server.py**). -/
def docClasses (m : String) : List String :=
  ((lookup m Gen.adapterCalls).getD []).flatMap fun f => (lookup f Gen.raisesDoc).getD []

/-- both directions of the comparison with the documented contract, checked in one evaluation because the
    costly part, `docClasses m` (string lookups in the two generated tables), is common to them. -/
theorem c08_doc_both : ∀ m ∈ methods18,
    (∀ cls ∈ docClasses m, (Spec.ariCode m cls).isSome = true) ∧
    (m ≠ "MDA" → ∀ cls ∈ libClasses, (Spec.ariCode m cls).isSome = true →
      cls ∈ docClasses m ∨ ((lookup cls Gen.parents).getD "" ∈ docClasses m)) := by
  decide +kernel

/-- **C08 (the designation is the documented contract, ⊇).** Every exception class an adapter method's
    documentation allows it to raise gets a subtype code on the wire method that calls it — so the
    hand-written `Spec.ariCode` promises at least what interfaces/*.py promises its users. -/
theorem c08_doc_sound : ∀ m ∈ methods18, ∀ cls ∈ docClasses m, (Spec.ariCode m cls).isSome = true :=
  fun m hm => (c08_doc_both m hm).1

/-- **C08 (the designation is the documented contract, ⊆).** Conversely a designated class is a
    documented one or a direct subclass of a documented one (ConflictingSessionError under
    CreditsError for `notify_new_session`) — except for MDA, whose docstring documents no exception
    while the ARI protocol and the property text type CreditsError/NotificationError for it. -/
theorem c08_doc_complete : ∀ m ∈ methods18, m ≠ "MDA" → ∀ cls ∈ libClasses,
    (Spec.ariCode m cls).isSome = true →
    cls ∈ docClasses m ∨ ((lookup cls Gen.parents).getD "" ∈ docClasses m) :=
  fun m hm => (c08_doc_both m hm).2

/-- all 18 handlers were found in server.py. -/
theorem c08_handlers_covered : methods18.all ((Gen.adapterCalls.map (·.1)).contains ·) = true := by
  decide +kernel

/-- every generated writer belongs to one of the 18 methods and vice versa. -/
theorem c08_methods_covered :
    (Gen.designated.map (·.1)).all (methods18.contains ·) = true ∧
    methods18.all ((Gen.designated.map (·.1)).contains ·) = true := by
  decide +kernel

/-- **C08 (unrelated classes are generic).** For every method and every class whose MRO contains no
    class designated for that method — `RuntimeError`, `ValueError`, `KeyError`, any user-defined
    `Exception` subclass, any library class the method may not signal — the reply is generic. -/
theorem c08_generic (m : String) (mro : List String)
    (h : ∀ c ∈ mro, c ∉ designatedOf m) : subtypeCode m mro = none := by
  unfold subtypeCode
  have : mro.any (fun c => (designatedOf m).contains c) = false := by
    simp only [List.any_eq_false, List.contains_iff_mem]
    intro c hc; exact h c hc
  rw [this]; rfl

/-- **C08 (user-defined subclasses).** A class that is not itself in the library's map — e.g. a
    user-defined subclass of a designated class — never gets a subtype code: its reply is the
    well-formed generic one. -/
theorem c08_user_subclass (m cls : String) (supers : List String)
    (h : lookup cls Gen.excMap = none) : subtypeCode m (cls :: supers) = none := by
  unfold subtypeCode
  split
  · simpa using h
  · rfl

def errToks (m : String) (e : Exc) : List String :=
  match subtypeCode m e.mro with
  | none => [m, "E", encodeString (some e.msg)]
  | some c =>
    [m, "E" ++ String.singleton c, encodeString (some e.msg)]
      ++ (if c = 'C' ∨ c = 'X' then [pyStrInt e.code, encodeString e.userMsg] else [])
      ++ (if c = 'X' then [encodeString e.sessionId] else [])

/-- **C08 (shape of the line).** The error reply of method `m` is exactly
    `m|E<code>|<msg>[|<client code>|<user msg>[|<session id>]]`: the subtype code glued to `E`, the
    first payload token the encoding of `str(exception)`, a CreditsError additionally its decimal
    client code and its user message (`#` for None, `$` for empty), a ConflictingSessionError also the
    conflicting session id. -/
theorem c08_line (m : String) (e : Exc) : writeError m e = joinBar (errToks m e) := by
  unfold writeError handleException appendExceptions errToks subtypeCode
  by_cases hd : (e.mro.any fun x => (designatedOf m).contains x) = true
  · simp only [hd]
    cases hc : lookup (e.mro.headD "") Gen.excMap with
    | none =>
      rw [← String.toList_inj]
      simp [joinBar_cons_cons, joinBar_singleton]
    | some c =>
      rw [← String.toList_inj]
      simp [joinBar_cons_cons, joinBar_singleton]
  · simp only [hd, Bool.false_eq_true, if_false]
    rw [← String.toList_inj]
    simp [joinBar_cons_cons, joinBar_singleton]

/-- what a conforming decoder recovers from the payload tokens of an error reply. -/
structure ErrInfo where
  subtype : Option Char
  msg : Dec
  code : Option Int
  userMsg : Option Dec
  sessionId : Option Dec
deriving DecidableEq

namespace Spec
/-- conforming decoder of an error reply given as tokens (`<M>`, `E<code>`, payload…). -/
def decodeErrorToks (toks : List String) : Option ErrInfo :=
  match toks with
  | [_, tag, msg] =>
    (match tag.toList with
     | ['E'] => some ⟨none, decodeString msg, none, none, none⟩
     | ['E', c] => if c = 'C' ∨ c = 'X' then none else some ⟨some c, decodeString msg, none, none, none⟩
     | _ => none)
  | [_, tag, msg, code, um] =>
    if tag = "EC" then some ⟨some 'C', decodeString msg, pyInt? code, some (decodeString um), none⟩ else none
  | [_, tag, msg, code, um, sid] =>
    if tag = "EX" then some ⟨some 'X', decodeString msg, pyInt? code, some (decodeString um),
      some (decodeString sid)⟩ else none
  | _ => none
end Spec

end Ari

namespace Ari
open Spec in
/-- **C08 (payload intact).** A conforming decoder recovers from the reply's tokens the subtype, exactly
    `str(exception)`, and for a CreditsError its client code and its user message (None ≠ empty), for a
    ConflictingSessionError also the conflicting session id — for every message, code and id. -/
theorem c08_payload (m : String) (e : Exc) :
    Spec.decodeErrorToks (errToks m e) =
      some (match subtypeCode m e.mro with
        | some 'C' => ⟨some 'C', .val (some e.msg), some e.code, some (.val e.userMsg), none⟩
        | some 'X' => ⟨some 'X', .val (some e.msg), some e.code, some (.val e.userMsg), some (.val e.sessionId)⟩
        | c => ⟨c, .val (some e.msg), none, none, none⟩) := by
  unfold errToks
  cases hc : subtypeCode m e.mro with
  | none => simp [Spec.decodeErrorToks, c05_roundtrip]
  | some c =>
    by_cases h1 : c = 'C'
    · subst h1
      simp [Spec.decodeErrorToks, c05_roundtrip, pyInt?_pyStrInt]
    · by_cases h2 : c = 'X'
      · subst h2
        simp [Spec.decodeErrorToks, c05_roundtrip, pyInt?_pyStrInt]
      · simp [Spec.decodeErrorToks, c05_roundtrip, h1, h2]

theorem lookup_mem {β} (k : String) (l : List (String × β)) (b : β) (h : lookup k l = some b) :
    b ∈ l.map (·.2) := by
  induction l with
  | nil => simp [lookup] at h
  | cons x xs ih =>
    simp only [lookup] at h
    split at h
    · cases h; simp
    · simp [ih h]

theorem subtypeCode_ne_bar (m : String) (mro : List String) (c : Char)
    (h : subtypeCode m mro = some c) : c ≠ '|' := by
  unfold subtypeCode at h
  split at h
  · have hm := lookup_mem _ _ _ h
    have : ∀ ch ∈ Gen.excMap.map (·.2), ch ≠ '|' := by decide
    exact this c hm
  · cases h

/-- together with `c08_line`: the tokens are recovered from the line itself by splitting at the
    separator (no token of an error reply contains it), so `c08_payload` applies to the line. -/
theorem c08_line_splits (m : String) (e : Exc) (hm : ∀ c ∈ m.toList, c ≠ '|') :
    splitBar (writeError m e) = errToks m e := by
  rw [c08_line]
  have henc : ∀ v, ∀ c ∈ (encodeString v).toList, c ≠ '|' := fun v c hc => ((c05_no_sep v).2 c hc).1
  have hint : ∀ i : Int, ∀ c ∈ (pyStrInt i).toList, c ≠ '|' := fun i c hc => ((pyStrInt_clean i).2 c hc).1
  apply splitBar_joinBar
  · unfold errToks; split <;> simp
  · unfold errToks
    split
    · simp only [List.forall_mem_cons, List.not_mem_nil, false_imp_iff, implies_true, and_true]
      exact ⟨hm, by decide, henc _⟩
    · rename_i code hcode
      have htag : ∀ c ∈ ("E" ++ String.singleton code).toList, c ≠ '|' := by
        simp only [String.toList_append, List.forall_mem_append]
        exact ⟨by decide, by simpa using subtypeCode_ne_bar m e.mro code hcode⟩
      simp only [List.forall_mem_append, List.forall_mem_cons, List.not_mem_nil, false_imp_iff, implies_true, and_true]
      refine ⟨⟨⟨hm, htag, henc _⟩, ?_⟩, ?_⟩ <;> split <;>
        simp only [List.forall_mem_cons, List.not_mem_nil, false_imp_iff, implies_true, and_true]
      · exact ⟨hint _, henc _⟩
      · exact henc _
end Ari
