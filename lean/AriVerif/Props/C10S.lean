import AriVerif.Conc.MetaGate
import AriVerif.Conc.DataGate
/-!
# C10 / C18 on the whole-server models of the co-simulation

For every reachable state of the Metadata (`MReach`) and Data (`GReachL`) server models — every schedule of starting
thread, reader, writer, pool threads and application threads, every pool size, every chunking of the inbound bytes,
every adapter outcome:
* **C10**: work for the adapter exists only after the init request was received (`c10s_meta_gate`,
  `c10s_data_gate`); the reader being sequential, `initialize` (and `set_listener`) returned before that line's
  successors were even looked at (`Dispatch.dispatchAll`, Props/C10.lean);
* **C18**: adapter-call effects occur only in steps of pool threads (`c18s_*_adapter_thread`), and the reader's
  and writer's own steps are enabled whatever the pool tasks are doing (`c18s_*_enabled`) — a blocked adapter
  call stops neither reading nor writing.
-/
namespace Ari.Conc

/-- In every reachable state, if any pool task exists or is owed by the reader, the init request has been received (and, the
    reader being sequential, `initialize` has returned). -/
theorem c10s_meta_gate {cfg : SrvCfg} {n : Nat} {s : MState} {log : List String} (h : MReach cfg n s log) :
    (s.pool.tasks ≠ [] ∨ owed s ≠ []) → s.rst.initExpected = false := by
  rintro (h1 | h1)
  · exact mreach_gate_inv h (.inl h1)
  · exact mreach_gate_inv h (.inr (owed_submit h1))

theorem c10s_data_gate {n : Nat} {u p : Option String} {s : DState} {log : List String}
    (h : GReachL n u p s log) :
    (s.tasks ≠ [] ∨ s.rmid.isSome = true ∨ ∃ x t, ROp.req x t ∈ s.rq) → s.initExpected = false :=
  greach_init_gate h.toH

theorem c18s_meta_adapter_thread {s s' : MState} {env : InitEnv} {tid : String} {op : MOp} {effs : List MEff}
    (h : mstep s env tid op = some (s', effs))
    (hc : ∃ c, MEff.adapterBegin c ∈ effs ∨ MEff.adapterEnd c ∈ effs) :
    tid ≠ "R" ∧ tid ≠ "W" ∧ tid ≠ "M" ∧ tid ≠ "P" ∧ tid.startsWith "T" = true := by
  obtain ⟨c, hc⟩ := hc
  -- the reader's local actions call no adapter method
  have loc : ∀ {s0 : MState} {acts : List RAct} {p' : PState} {rq' : List RAct} {e : List MEff},
      RunsLocal s0 acts p' rq' e → MEff.adapterBegin c ∉ e ∧ MEff.adapterEnd c ∉ e := fun h =>
    ⟨h.not_mem nofun nofun, h.not_mem nofun nofun⟩
  cases mstep_kind h with
  | pool hT => exact ⟨hT.other.ne_R, hT.other.ne_W, hT.other.ne_M, hT.other.ne_P, hT.startsWith⟩
  | rRecv _ _ _ hrun => exact (hc.elim (loc hrun).1 (loc hrun).2).elim
  | rPut _ _ hrun =>
    simp only [List.mem_cons, reduceCtorEq, false_or] at hc
    exact (hc.elim (loc hrun).1 (loc hrun).2).elim
  | rFail | wFail => rcases hc with hc | hc <;> rcases mem_ioEffects hc with h | h <;> cases h
  | _ => simp at hc

theorem c18s_data_adapter_thread {s s' : DState} {tid : String} {op : OpClass} {x : String} {effs : List GEff}
    (h : gstep s tid op x = some (s', effs))
    (hc : ∃ m y, GEff.adapterBegin m y ∈ effs ∨ GEff.adapterEnd m y ∈ effs) :
    tid ≠ "R" ∧ tid ≠ "W" ∧ tid ≠ "M" ∧ tid ≠ "P" ∧ tid.startsWith "T" = true := by
  obtain ⟨m, y, hc⟩ := hc
  -- an item step with adapter effects is the begin or the end of a call
  have key : ∀ {z : String} {a : IAct} {i' : IState} {e : List Eff}, istep (getItem s z) a = some (i', e) →
      GEff.adapterBegin m y ∈ liftEffs z s.tasks.length e ∨ GEff.adapterEnd m y ∈ liftEffs z s.tasks.length e →
      (∃ k, a = .callBegin k) ∨ ∃ k o, a = .callEnd k o :=
    fun hi hc => (istep_effs _ _ _ _ hi).2 m (mem_liftEffs_adapter hc)
  cases gstep_kind h with
  | task hT _ _ _ => exact ⟨hT.other.ne_R, hT.other.ne_W, hT.other.ne_M, hT.other.ne_P, hT.startsWith⟩
  | rLock _ _ _ hi | rAdd _ _ hi | tStart _ _ _ _ _ hi | tDec _ _ _ hi | lsnRead _ _ hi | lsnPut _ hi =>
    rcases key hi hc with ⟨k, hk⟩ | ⟨k, o, hk⟩ <;> cases hk
  | rFail | wFail => rcases hc with hc | hc <;> rcases mem_gioEffects hc with h | h <;> cases h
  | _ => simp at hc

/-- (as long as the process has not exited — the default reaction to an I/O failure; the reader's `recv` is also enabled
    when the peer has closed the connection: it is then the failing read of Conc/MetaFault.lean.) -/
theorem c18s_meta_enabled (s : MState) (env : InitEnv) (hx : s.exited = false) :
    (s.rthr = 2 → s.rq = [] → (s.inbound ≠ [] ∨ s.inEnd = true) → (mstep s env "R" .recv).isSome) ∧
    (s.rthr = 2 → ∀ l rest, s.rq = .reply l :: rest → (mstep s env "R" .put).isSome) ∧
    (s.wthr = 2 → s.wsend = none → s.sendQ ≠ [] → (mstep s env "W" .get).isSome) ∧
    (s.wthr = 2 → ∀ m, s.wsend = some m → (mstep s env "W" .send).isSome) :=
  mstep_io_enabled s env hx

/-- (as long as the process has not exited; the reader's `recv` is also enabled when the peer has closed the connection: it
    is then the failing read of Conc/DataFault.lean.) -/
theorem c18s_data_enabled (s : DState) (x : String) (hx : s.exited = false) :
    (s.rst = 2 → s.rmid = none → s.rq = [] → (s.inbound ≠ [] ∨ s.inEnd = true) → (gstep s "R" .recv x).isSome) ∧
    (s.rst = 2 → s.rmid = none → ∀ l rest, s.rq = .reply l :: rest → (gstep s "R" .put x).isSome) ∧
    (s.wst = 2 → s.wpc = .get → s.sendQ ≠ [] → ∀ b, (gstep s "W" (.get b) x).isSome) ∧
    (s.wst = 2 → ∀ m, s.wpc = .send m → (gstep s "W" .send x).isSome) :=
  gstep_io_enabled s x hx

end Ari.Conc
