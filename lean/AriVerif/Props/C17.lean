import AriVerif.Conc.PropLemmas
/-!
# C17 — an empty snapshot is closed by the library before updates and the reply
-/
namespace Ari.Conc

/-- **C17 (emits, tagged, in time).** When the availability query returned `False`, the instance's next
    steps are forced: read the id — which is the id of the subscription being executed — enqueue the EOS
    line built with it, and only then begin `subscribe()`. -/
theorem c17_emits (s s1 : IState) (e1 : List Eff) (hi : Inv s) (k : Nat) (t : Task)
    (hk : k < s.ninst) (hc : cur s = some k) (hpc : (s.insts k).pc = .eosRead t)
    (h1 : istep s (.eosRead k) = some (s1, e1)) :
    readCode s = some t.id ∧
    ∃ line, eventLine s.item t.id .eos = some line ∧
      (s1.insts k).pc = .put t line (.callBegin .sub t) := by
  have hrc : readCode s = some t.id := hi.codePublished k hc t (by rw [hpc]; simp [Pc.published])
  -- `writeEos` cannot fail on two strings, so the emitting branch is the one taken
  obtain ⟨rfl, rfl⟩ := (IStep.eosRead_emit hk hpc hrc rfl).unique h1
  exact ⟨hrc, _, rfl, by simp [setInst, addLog]⟩

/-- the query returning `False` (and only that) leads to the EOS branch; anything else goes straight to
    `subscribe()` with no library EOS. -/
theorem c17_branch (s s' : IState) (e : List Eff) (k : Nat) (t : Task) (isF : Bool)
    (hk : k < s.ninst) (hpc : (s.insts k).pc = .inCall .snap t) (hl : (s.insts k).lsn = none)
    (h : istep s (.callEnd k (.ret isF)) = some (s', e)) :
    (s'.insts k).pc = (if isF then .eosRead t else .callBegin .sub t) := by
  obtain ⟨rfl, rfl⟩ := (IStep.callEnd_snap_ret hk hpc hl).unique h
  simp [setInst]

/-- **C17 (query raises).** The subscription is answered with that error and `subscribe` is not called. -/
theorem c17_raises (s s' : IState) (e : List Eff) (k : Nat) (t : Task) (ex : Exc)
    (hk : k < s.ninst) (hpc : (s.insts k).pc = .inCall .snap t) (hl : (s.insts k).lsn = none)
    (h : istep s (.callEnd k (.raise ex)) = some (s', e)) :
    (s'.insts k).pc = .put t (t.id ++ "|" ++ writeError "SUB" ex) .atLoop ∧ (s'.insts k).ok = false := by
  obtain ⟨rfl, rfl⟩ := (IStep.callEnd_snap_raise hk hpc hl).unique h
  simp [setInst, replyLine]

/-- the instance executing a subscription is the item's current looping instance (so `c17_emits` applies). -/
theorem c17_executor_is_current (s : IState) (hi : Inv s) (k : Nat) (hk : k < s.ninst)
    (hh : (s.insts k).pc.held ≠ none) : cur s = some k :=
  hi.cur_of_held hk hh

end Ari.Conc
