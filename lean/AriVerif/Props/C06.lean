import AriVerif.Spec.Ari
import AriVerif.Lemmas.Wire
import AriVerif.Props.C05
import AriVerif.Gen.Layouts
/-!
# C06 — request decoding inverts the ARI encoding for all 18 request kinds

`Spec.encodeArgs` / `Spec.encodeRequest` (Spec/Ari.lean) is the conforming Proxy Adapter; the
theorems say that the library's decoders (`parseRequest`, `decodeWith`, `decodeRequest`, tied to
protocol.parse_request and the 18 read_* functions by the `requests` differential of
harness/s_wire.py) invert it for **all** argument values: every string / None / "" in every text
slot, every `Int`, every mode and platform code incl. null, maps, lists and table lists of any
length, and both line terminators.
-/
namespace Ari

theorem encodeString_clean (v : Option String) : CleanTok (encodeString v) := by
  match v with
  | none => decide
  | some s =>
    by_cases h : s = ""
    · subst h; decide
    · obtain ⟨h1, h2⟩ := c05_charset s h
      refine ⟨fun e => h1 (by rw [e]; rfl), fun c hc => tokenChar_clean c (h2 c hc)⟩

theorem marker_clean (ty : Ty) : CleanTok (String.singleton ty.marker) := by
  cases ty <;> decide

theorem encVal_clean (ty : Ty) (v : Val) (t : String) (h : Spec.encVal ty v = some t) : CleanTok t := by
  cases ty <;> cases v <;> simp only [Spec.encVal, Option.some.injEq, reduceCtorEq] at h
  · subst h; exact encodeString_clean _
  · subst h; exact pyStrInt_clean _
  · rename_i m; rcases m with _ | (_ | _ | _ | _) <;> cases h <;> decide
  · rename_i p; rcases p with _ | (_ | _ | _) <;> cases h <;> decide

theorem encField_eq (ty : Ty) (v : Val) (a : List String) (h : Spec.encField ty v = some a) :
    ∃ t, Spec.encVal ty v = some t ∧ a = [String.singleton ty.marker, t] := by
  unfold Spec.encField at h
  cases hv : Spec.encVal ty v with
  | none => simp [hv] at h
  | some t => simp [hv] at h; exact ⟨t, rfl, h.symm⟩

theorem encField_clean (ty : Ty) (v : Val) (a : List String) (h : Spec.encField ty v = some a) :
    ∀ t ∈ a, CleanTok t := by
  obtain ⟨t, hv, rfl⟩ := encField_eq ty v a h
  exact List.forall_mem_cons.mpr ⟨marker_clean ty, List.forall_mem_singleton.mpr (encVal_clean ty v _ hv)⟩

/-- the spec encoders are built from `do a ← x; b ← y; some (a ++ b)`. -/
theorem bind_append_eq_some {α} {x y : Option (List α)} {enc : List α}
    (h : (do let a ← x; let b ← y; some (a ++ b)) = some enc) :
    ∃ a b, x = some a ∧ y = some b ∧ enc = a ++ b := by
  simp only [Option.bind_eq_bind, Option.bind_eq_some_iff, Option.some.injEq] at h
  obtain ⟨a, ha, b, hb, rfl⟩ := h
  exact ⟨a, b, ha, hb, rfl⟩

theorem forall_mem_bind_append {α} {P : α → Prop} {x y : Option (List α)} {enc : List α}
    (h : (do let a ← x; let b ← y; some (a ++ b)) = some enc)
    (hx : ∀ a, x = some a → ∀ t ∈ a, P t) (hy : ∀ b, y = some b → ∀ t ∈ b, P t) : ∀ t ∈ enc, P t := by
  obtain ⟨a, b, ha, hb, rfl⟩ := bind_append_eq_some h
  exact List.forall_mem_append.mpr ⟨hx a ha, hy b hb⟩

theorem encFields_clean (tys : List Ty) (vs : List Val) (enc : List String)
    (h : Spec.encFields tys vs = some enc) : ∀ t ∈ enc, CleanTok t := by
  fun_induction Spec.encFields tys vs generalizing enc with
  | case1 => cases h; simp
  | case2 ty tys v vs ih => exact forall_mem_bind_append h (encField_clean ty v) ih
  | case3 => cases h

theorem encPairs_clean (kvs : List (Val × Val)) (enc : List String)
    (h : Spec.encPairs kvs = some enc) : ∀ t ∈ enc, CleanTok t := by
  fun_induction Spec.encPairs kvs generalizing enc with
  | case1 => cases h; simp
  | case2 k v rest ih =>
    simp only [Option.bind_eq_bind, Option.bind_eq_some_iff, Option.some.injEq] at h
    obtain ⟨a, ha, b, hb, c, hc, rfl⟩ := h
    exact List.forall_mem_append.mpr ⟨List.forall_mem_append.mpr
      ⟨encField_clean _ _ a ha, encField_clean _ _ b hb⟩, ih c hc⟩

theorem encSeq_clean (xs : List Val) (enc : List String)
    (h : Spec.encSeq xs = some enc) : ∀ t ∈ enc, CleanTok t := by
  fun_induction Spec.encSeq xs generalizing enc with
  | case1 => cases h; simp
  | case2 v rest ih => exact forall_mem_bind_append h (encField_clean .S v) ih

theorem encTables_clean (ts : List (List Val)) (enc : List String)
    (h : Spec.encTables ts = some enc) : ∀ t ∈ enc, CleanTok t := by
  fun_induction Spec.encTables ts generalizing enc with
  | case1 => cases h; simp
  | case2 row rest ih => exact forall_mem_bind_append h (encFields_clean tableTys row) ih

theorem encTail_clean (tl : Tail) (tv : TailVal) (enc : List String)
    (h : Spec.encTail tl tv = some enc) : ∀ t ∈ enc, CleanTok t := by
  cases tl <;> cases tv <;> simp only [Spec.encTail, reduceCtorEq, Option.some.injEq] at h
  · subst h; simp
  · exact encPairs_clean _ _ h
  · exact encSeq_clean _ _ h
  · exact encTables_clean _ _ h

theorem read_encVal (toks : List String) (i : Nat) (ty : Ty) (v : Val) (t : String)
    (h0 : toks[i]? = some (String.singleton ty.marker)) (h1 : toks[i + 1]? = some t)
    (h : Spec.encVal ty v = some t) : read toks ty.marker i = .ok v := by
  simp only [read, readToken, h0, h1, R.bind_ok]
  cases ty <;> cases v <;> simp only [Spec.encVal, Option.some.injEq, reduceCtorEq] at h
  · subst h; simp [Ty.marker, c05_roundtrip]
  · subst h; simp [Ty.marker, pyInt?_pyStrInt]
  · rename_i m; rcases m with _ | (_ | _ | _ | _) <;> cases h <;> decide
  · rename_i p; rcases p with _ | (_ | _ | _) <;> cases h <;> decide

theorem read_encField (pre post a : List String) (ty : Ty) (v : Val)
    (h : Spec.encField ty v = some a) :
    read (pre ++ a ++ post) ty.marker pre.length = .ok v := by
  obtain ⟨t, hv, rfl⟩ := encField_eq ty v a h
  apply read_encVal _ _ _ _ t _ _ hv
  · simp
  · simp

theorem encFields_length (tys : List Ty) (vs : List Val) (enc : List String)
    (h : Spec.encFields tys vs = some enc) : enc.length = 2 * tys.length := by
  fun_induction Spec.encFields tys vs generalizing enc with
  | case1 => cases h; rfl
  | case2 ty tys v vs ih =>
    obtain ⟨a, b, ha, hb, rfl⟩ := bind_append_eq_some h
    obtain ⟨t, _, rfl⟩ := encField_eq ty v a ha
    simp only [List.length_append, List.length_cons, List.length_nil, ih b hb]
    omega
  | case3 => cases h

theorem decodeFixed_encFields (pre post : List String) (tys : List Ty) (vs : List Val)
    (enc : List String) (h : Spec.encFields tys vs = some enc) :
    decodeFixed (pre ++ enc ++ post) tys pre.length = .ok vs := by
  fun_induction Spec.encFields tys vs generalizing enc pre with
  | case1 => rfl
  | case2 ty tys v vs ih =>
    obtain ⟨a, b, ha, hb, rfl⟩ := bind_append_eq_some h
    unfold decodeFixed
    have h1 : read (pre ++ (a ++ b) ++ post) ty.marker pre.length = .ok v := by
      simpa using read_encField pre (b ++ post) a ty v ha
    have h2 : decodeFixed (pre ++ (a ++ b) ++ post) tys (pre.length + 2) = .ok vs := by
      obtain ⟨t, _, rfl⟩ := encField_eq ty v a ha
      simpa using ih (pre ++ [String.singleton ty.marker, t]) b hb
    rw [h1, h2]; rfl
  | case3 => cases h

theorem readPairs_encPairs (kvs : List (Val × Val)) (enc : List String)
    (h : Spec.encPairs kvs = some enc) : readPairs enc = .ok kvs ∧ enc.length % 2 = 0 := by
  induction kvs generalizing enc with
  | nil => simp [Spec.encPairs] at h; subst h; exact ⟨rfl, rfl⟩
  | cons kv rest ih =>
    obtain ⟨k, v⟩ := kv
    simp only [Spec.encPairs, Option.bind_eq_bind, Option.bind_eq_some_iff, Option.some.injEq] at h
    obtain ⟨a, ha, b, hb, c, hc, rfl⟩ := h
    have hk : read (a ++ b ++ c) 'S' 0 = .ok k := by
      simpa [Ty.marker] using read_encField [] (b ++ c) a .S k ha
    have hv : read (a ++ b ++ c) 'S' a.length = .ok v := by
      simpa [Ty.marker] using read_encField a c b .S v hb
    obtain ⟨tk, _, rfl⟩ := encField_eq _ _ a ha
    obtain ⟨tv, _, rfl⟩ := encField_eq _ _ b hb
    obtain ⟨ih1, ih2⟩ := ih c hc
    simp only [List.cons_append, List.nil_append, List.length_cons, List.length_nil] at hk hv ⊢
    refine ⟨?_, by omega⟩
    rw [readPairs, hk, hv, ih1]; rfl

theorem readSeqL_encSeq (xs : List Val) (enc : List String)
    (h : Spec.encSeq xs = some enc) : readSeqL enc = .ok xs := by
  induction xs generalizing enc with
  | nil => simp [Spec.encSeq] at h; subst h; rfl
  | cons v rest ih =>
    obtain ⟨a, c, ha, hc, rfl⟩ := bind_append_eq_some h
    have hk : read (a ++ c) 'S' 0 = .ok v := by
      simpa [Ty.marker] using read_encField [] c a .S v ha
    obtain ⟨tk, _, rfl⟩ := encField_eq _ _ a ha
    simp only [List.cons_append, List.nil_append] at hk ⊢
    rw [readSeqL, hk, ih c hc]; rfl

theorem encTables_length (ts : List (List Val)) (enc : List String)
    (h : Spec.encTables ts = some enc) : enc.length = 14 * ts.length := by
  fun_induction Spec.encTables ts generalizing enc with
  | case1 => cases h; rfl
  | case2 row rest ih =>
    obtain ⟨a, c, ha, hc, rfl⟩ := bind_append_eq_some h
    rw [List.length_append, encFields_length _ _ _ ha, ih c hc, List.length_cons]
    show 14 + _ = _
    omega

theorem decodeTables_encTables (ts : List (List Val)) (enc : List String) (fuel : Nat)
    (h : Spec.encTables ts = some enc) (hfuel : ts.length ≤ fuel) : decodeTables fuel enc = .ok ts := by
  induction ts generalizing enc fuel with
  | nil => simp [Spec.encTables] at h; subst h; unfold decodeTables; rfl
  | cons row rest ih =>
    obtain ⟨a, c, ha, hc, rfl⟩ := bind_append_eq_some h
    have hlen : a.length = 14 := by rw [encFields_length _ _ _ ha]; rfl
    cases fuel with
    | zero => simp at hfuel
    | succ fuel =>
      have hrow : decodeFixed a tableTys 0 = .ok row := by
        simpa using decodeFixed_encFields [] [] tableTys row a ha
      cases a with
      | nil => simp at hlen
      | cons x a' =>
        rw [List.cons_append, decodeTables]
        · have e1 : List.take 14 (x :: (a' ++ c)) = x :: a' := by
            rw [← List.cons_append, List.take_left' hlen]
          have e2 : List.drop 14 (x :: (a' ++ c)) = c := by
            rw [← List.cons_append, List.drop_left' hlen]
          rw [e1, e2, hrow, ih c fuel hc (by simpa using hfuel)]; rfl
        · simp

/-- **C06 (tokenisation, both terminators).** -/
theorem c06_tokenize (id m : String) (toks : List String) (term : String)
    (hterm : term = "\r\n" ∨ term = "\n")
    (hid : CleanTok id) (hm : CleanTok m) (htoks : ∀ t ∈ toks, CleanTok t) :
    parseRequest (joinBar (id :: m :: toks) ++ term) = some (id, m, toks) := by
  have hterm' : ∀ c ∈ term.toList, isSpace c = true := by rcases hterm with rfl | rfl <;> decide
  have h : ∀ t ∈ id :: m :: toks, CleanTok t :=
    List.forall_mem_cons.mpr ⟨hid, List.forall_mem_cons.mpr ⟨hm, htoks⟩⟩
  unfold parseRequest
  rw [rstrip_joinBar_append _ _ hterm' (fun t ht c hc => ((h t ht).2 c hc).2),
    splitBar_joinBar _ (by simp) (fun t ht c hc => ((h t ht).2 c hc).1)]
  have hf : (id :: m :: toks).filter (fun t => rstrip t != "") = id :: m :: toks := by
    rw [List.filter_eq_self]
    intro t ht
    rw [rstrip_nospace t (fun c hc => ((h t ht).2 c hc).2)]
    simpa using (h t ht).1
  simp only [hf]

/-- every token the conforming encoder produces is clean (so `c06_tokenize` applies to its lines). -/
theorem c06_encoder_tokens_clean (σ : Schema) (a : Args) (toks : List String)
    (h : Spec.encodeArgs σ a = some toks) : ∀ t ∈ toks, CleanTok t := by
  exact forall_mem_bind_append h (encFields_clean _ _) (encTail_clean _ _)

/-- **C06 (generic layout round trip).** For every layout and all arguments that fit it, decoding
    the conforming encoding returns exactly the arguments. -/
theorem c06_generic (σ : Schema) (a : Args) (toks : List String)
    (h : Spec.encodeArgs σ a = some toks) : decodeWith σ toks = .ok a := by
  obtain ⟨f, t, hf, ht, rfl⟩ := bind_append_eq_some h
  have hfl := encFields_length _ _ _ hf
  have h1 : decodeFixed (f ++ t) σ.fixed 0 = .ok a.fixed := by
    simpa using decodeFixed_encFields [] t _ _ f hf
  have hdrop : (f ++ t).drop (2 * σ.fixed.length) = t := by rw [← hfl]; simp
  obtain ⟨m, fx, tl⟩ := σ
  obtain ⟨afx, atl⟩ := a
  unfold decodeWith
  rw [h1]
  cases tl <;> cases atl <;> simp only [Spec.encTail, reduceCtorEq] at ht
  · rfl
  · rename_i kvs
    obtain ⟨h2, h3⟩ := readPairs_encPairs _ _ ht
    have : readMap (f ++ t) (2 * fx.length) = .ok kvs := by
      unfold readMap
      simp only [hdrop]
      rw [if_neg (by omega), h2]
    simp only [this]; rfl
  · rename_i xs
    have : readSeq (f ++ t) (2 * fx.length) = .ok xs := by
      unfold readSeq
      rw [hdrop, readSeqL_encSeq _ _ ht]
    simp only [this]; rfl
  · -- fuel: a table takes 14 tokens, so there are no more tables than tokens
    have h2 := decodeTables_encTables _ t (f ++ t).length ht
      (by have := encTables_length _ _ ht; simp only [List.length_append]; omega)
    simp only [hdrop, h2]; rfl

theorem c06_schemas_lookup : ∀ σ ∈ schemas, schemaOf σ.method = some σ := by
  decide

theorem c06_method_clean : ∀ σ ∈ schemas, CleanTok σ.method := by
  decide

/-- **C06 (all 18 request kinds, whole line).** Decoding a conforming request line yields the request
    id, the method and exactly the encoded arguments, whichever terminator ends the line. -/
theorem c06_all (σ : Schema) (hσ : σ ∈ schemas) (id : String) (a : Args) (term line : String)
    (hterm : term = "\r\n" ∨ term = "\n") (hid : CleanTok id)
    (h : Spec.encodeRequest id σ a term = some line) :
    ∃ toks, parseRequest line = some (id, σ.method, toks) ∧
      decodeRequest σ.method toks = some (.ok a) := by
  unfold Spec.encodeRequest at h
  cases ha : Spec.encodeArgs σ a with
  | none => simp [ha] at h
  | some toks =>
    simp only [ha, Option.map_some, Option.some.injEq] at h
    subst h
    refine ⟨toks, c06_tokenize id σ.method toks term hterm hid (c06_method_clean σ hσ)
      (c06_encoder_tokens_clean σ a toks ha), ?_⟩
    unfold decodeRequest
    rw [c06_schemas_lookup σ hσ]
    simp only [Option.map_some, c06_generic σ a toks ha]

/-- the null mode may also arrive as `$` (the repository's tests send both). -/
theorem c06_mode_null_alternatives : decodeModes "#" = .ok none ∧ decodeModes "$" = .ok none := by
  decide

-- the layouts agree with request literals of the repository's own tests (tests, labelled as such)
example : (parseRequest "10000010c3e4d0462|NUS|S|user|S|password|S|host|S|www.mycompany.com\r\n").map
    (fun (_, m, d) => decodeRequest m d) =
    some (some (.ok ⟨[.str (some "user"), .str (some "password")],
      .map [(.str (some "host"), .str (some "www.mycompany.com"))]⟩)) := by decide +kernel
example : decodeRequest "NNT" ["S", "#", "S", "S8f3da29cfc463220T5454537", "I", "1", "M", "M", "S",
    "nasdaq100_AA_AL", "S", "short", "I", "1", "I", "5", "S", "#"] =
    some (.ok ⟨[.str none, .str (some "S8f3da29cfc463220T5454537")],
      .tables [[.int 1, .mode (some .merge), .str (some "nasdaq100_AA_AL"), .str (some "short"),
                .int 1, .int 5, .str none]]⟩) := by decide +kernel

/-- the typed reads a layout prescribes: field `i` of type `ty` at token offset `2 * i`, then the variable part. -/
def layoutOf (σ : Schema) : List (Char × Nat) × Option (String × Nat) :=
  ((List.range σ.fixed.length).zip σ.fixed |>.map fun (i, ty) => (ty.marker, 2 * i),
   match σ.tail with
   | .none => none
   | .map => some ("map", 2 * σ.fixed.length)
   | .seq => some ("seq", 2 * σ.fixed.length)
   | .tables => some ("tables", 2 * σ.fixed.length))

/-- **C06 / C09 (layouts tied to the source by translation).** `Gen.layouts` is extracted on every run from the
    AST of the 18 `read_*` functions (every `read(data, T, k)` / `read_map` / `read_seq` / `_read_tables` call in
    evaluation order, helper functions inlined, offsets constant-folded).  It equals the hand-written layout
    table the decoding theorems are about — so a changed offset, type marker, field order or tail in the source
    breaks this theorem instead of silently leaving the model behind. -/
theorem c06_layouts_from_source :
    Gen.layouts = schemas.map (fun σ => (σ.method, layoutOf σ)) := by decide +kernel

theorem c06_table_layout_from_source :
    Gen.tableLayout = ((List.range tableTys.length).zip tableTys |>.map fun (i, ty) => (ty.marker, 2 * i)) ∧
    Gen.tableChunk = 2 * tableTys.length := by decide +kernel

end Ari
