import AriVerif.Gen.Skeleton
import AriVerif.Spec.Skeleton
/-!
# The structure the models assume is the structure of the current source — group **MetaPool**
`_handle_request` of both servers: init gating on the reader thread, pool submission (`Conc/Pool.lean`; C04, C10, C18).
-/
namespace Ari

theorem skel_metapool_from_source : Gen.skelMetaPool = Spec.expectedMetaPool := rfl

theorem writers_metapool_from_source :
    rowsOf Gen.writers ["init_expected", "_close_expected", "_executor"] = rowsOf Spec.expectedWriters ["init_expected", "_close_expected", "_executor"] := rfl

end Ari
