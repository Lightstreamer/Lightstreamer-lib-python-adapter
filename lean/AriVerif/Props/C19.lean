import AriVerif.Conc.PropLemmas
/-!
# C19 — quiescent subscription state is exact; nothing retained after unsubscribe
-/
namespace Ari.Conc

/-- At quiescence, if the last request for the item was an unsubscription, no id is published for it: events for it are
    dropped. -/
theorem c19_probe_dropped (s : IState) (h : Inv s) (hq : Quiescent s) (t : Task)
    (hl : s.arr.getLast? = some t) (ht : t.isSub = false) : readCode s = none := by
  rw [h.quiescent_arr_fin hq] at hl
  exact h.codeAfterUsb (h.quiescent_between hq) t hl ht

/-- **C19 (nothing retained).** At quiescence, if the last request for the item was an unsubscription, the
    item is no longer registered … -/
theorem c19_unsub (s : IState) (h : Inv s) (hq : Quiescent s) (t : Task)
    (hl : s.arr.getLast? = some t) (ht : t.isSub = false) : s.active = none := by
  have hrc := c19_probe_dropped s h hq t hl ht
  cases ha : s.active with
  | none => rfl
  | some g =>
    exfalso
    have hg := h.activeLt g ha
    have hcode : (s.mgrs g).code = none := by simpa [readCode, ha] using hrc
    have hcnt := h.counter g hg
    rw [h.quiescent_queue hq g hg, h.quiescent_loop_none hq g hg, quiescent_decOf_zero hq g, hq.1] at hcnt
    rcases h.registered g ha with hc | hc
    · exact hc hcode
    · rw [hcnt] at hc
      simp at hc

/-- … every generation of bookkeeping that is not registered is empty and unreferenced (no queued task, no
    looping dequeuer, no id, counter zero) — in every reachable state, so memory does not grow with the
    number of past subscriptions … -/
theorem c19_dead_generations_empty (s : IState) (h : Inv s) (g : Nat) (hg : g < s.nmgr)
    (hd : s.active ≠ some g) :
    (s.mgrs g).q = [] ∧ (s.mgrs g).loop = none ∧ (s.mgrs g).code = none ∧ (s.mgrs g).queued = 0 :=
  h.dead g hg hd

/-- **C19 (live subscription exact).** At quiescence, if the last request was a subscription (necessarily
    executed, C02), exactly that subscription's id is the published one. -/
theorem c19_live (s : IState) (h : Inv s) (hq : Quiescent s) (t : Task)
    (hl : s.arr.getLast? = some t) (ht : t.isSub = true) : readCode s = some t.id := by
  have hnl : t ∉ s.late := fun hm => h.lateSucc t hm hl
  rw [h.quiescent_arr_fin hq] at hl
  exact h.codeExec (h.quiescent_between hq) t hl ht hnl

end Ari.Conc
