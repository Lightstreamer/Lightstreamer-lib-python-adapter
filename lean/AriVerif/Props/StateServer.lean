import AriVerif.Gen.State
import AriVerif.Spec.State
/-!
# Every server / connection / sender owns its state (server.py)

The whole-server models describe ONE server; two servers in a process (the usual Metadata + Data pair) are two independent
copies only if `server.py` keeps nothing at module or class level beyond the recorded instance counter.
-/
namespace Ari

theorem state_server_from_source :
    Spec.stateRows Gen.sharedState ["server.py"] = Spec.stateRows Spec.sharedState ["server.py"] := rfl

end Ari
