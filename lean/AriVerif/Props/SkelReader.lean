import AriVerif.Gen.Skeleton
import AriVerif.Spec.Skeleton
/-!
# The structure the models assume is the structure of the current source — group **Reader**
The reader loop and the exception paths of the reader thread (`Framing.lean`, `Dispatch.lean`; C09, C15, C20).
-/
namespace Ari

theorem skel_reader_from_source : Gen.skelReader = Spec.expectedReader := rfl

theorem writers_reader_from_source :
    rowsOf Gen.writers ["_request_manager", "_server_sock"] = rowsOf Spec.expectedWriters ["_request_manager", "_server_sock"] := rfl

end Ari
