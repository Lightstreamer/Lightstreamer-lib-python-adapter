import AriVerif.Gen.Pool
import AriVerif.Props.C04
/-!
# C18 — adapter calls run on the worker pool; pool of one is strictly sequential (size part)

`Gen.poolSize` is generated from `Server.__init__` on every run; `cpu` is `cpu_count()`
(`none` = NotImplementedError, then the library's default of 4 applies).
-/
namespace Ari

/-- **C18 (pool size).** The configured `thread_pool_size` when it is ≥ 1, the CPU count when it is
    0, negative or `None`. -/
theorem c18_size (size cpu : Option Int) :
    Gen.poolSize size cpu =
      match size with
      | some k => if 1 ≤ k then k else (match cpu with | some c => c | none => 4)
      | none => (match cpu with | some c => c | none => 4) := by
  unfold Gen.poolSize
  cases size with
  | none => cases cpu <;> rfl
  | some k =>
    by_cases h : 1 ≤ k
    · have : max 0 k = k := by omega
      have hk : ¬ k = 0 := by omega
      simp [this, h, hk]
    · have : max 0 k = 0 := by omega
      simp [this, h]
      cases cpu <;> rfl

/-- a pool always has at least one worker when the machine reports at least one CPU. -/
theorem c18_size_pos (size cpu : Option Int) (hc : ∀ c, cpu = some c → 1 ≤ c) :
    1 ≤ Gen.poolSize size cpu := by
  rw [c18_size]
  cases size <;> cases cpu <;> simp_all <;> (try split) <;> omega

end Ari

namespace Ari.Conc

/-- **C18 (at most `n` requests are being handled).** `running` counts exactly the started, unfinished tasks
    and never exceeds the pool size. -/
theorem c18_bound (n : Nat) (s : PState) (h : PReach n s) :
    s.running ≤ n ∧ s.running = (s.tasks.filter (·.pc.isActive)).length ∧ s.n = n := by
  have inv := h.inv
  obtain ⟨acts, hr⟩ := h
  have hn : s.n = n := prun_n acts _ s hr
  exact ⟨hn ▸ inv.bound, inv.running, hn⟩

/-- **C18 (a pool of one is strictly sequential).** With one worker at most one task is active, so adapter
    invocations never overlap. -/
theorem c18_one_sequential (s : PState) (h : PReach 1 s) (i j : Nat) (ti tj : PTask)
    (hi : s.tasks[i]? = some ti) (hj : s.tasks[j]? = some tj)
    (ai : ti.pc.isActive = true) (aj : tj.pc.isActive = true) : i = j := by
  obtain ⟨hb, hr, -⟩ := c18_bound 1 s h
  apply Classical.byContradiction
  intro hne
  -- with task `i` taken out of the count (made inactive), task `j` is still counted
  have hd : ¬ ({ ti with pc := .done } : PTask).pc.isActive = true := Bool.false_ne_true
  have h1 := filter_length_set (·.pc.isActive) s.tasks i ti { ti with pc := .done } hi
  rw [if_pos ai, if_neg hd] at h1
  have h2 : 1 ≤ ((s.tasks.set i { ti with pc := .done }).filter (·.pc.isActive)).length :=
    List.length_filter_pos_iff.mpr ⟨tj, List.mem_of_getElem? (by rw [List.getElem?_set_ne hne]; exact hj), aj⟩
  omega

/-- **C18 (arrival order).** Tasks are started in submission order, for every pool size: the k-th task to
    start is the k-th submitted, and the work queue holds exactly the not yet started ones, in order. -/
theorem c18_fifo_start (n : Nat) (s : PState) (h : PReach n s) :
    s.started = List.range s.started.length ∧
    s.workQ = (List.range s.tasks.length).drop s.started.length :=
  ⟨h.inv.started, h.inv.workQ⟩

/-- **C18 (the reader is never blocked by the pool).** Handing a request to the pool is always possible,
    whatever the workers are doing … -/
theorem c18_submit_nonblocking (s : PState) (rid m : String) (a : Args) :
    (pstep s (.submit rid m a)).isSome := (PStep.submit rid m a).isSome

/-- … and a free worker always takes the oldest waiting request, whatever the other tasks are doing (even if
    all of them are blocked inside adapter calls). -/
theorem c18_free_worker_takes (s : PState) (k : Nat) (rest : List Nat) (t : PTask)
    (hq : s.workQ = k :: rest) (ht : s.tasks[k]? = some t) (hp : t.pc = .inPool) (hf : s.running < s.n) :
    (pstep s (.start k)).isSome :=
  (PStep.start ht hp (by rw [hq]; rfl) hf).isSome

/-- **C18 (adapter methods run in pool tasks only).** The only steps with an adapter-call effect are the
    `callBegin` / `callEnd` steps of a pool task (the reader's `submit` has no effect at all). -/
theorem c18_calls_only_in_tasks (s s' : PState) (a : PAct) (effs : List PEff) (h : pstep s a = some (s', effs))
    (c : Call) (hc : PEff.adapterBegin c ∈ effs ∨ PEff.adapterEnd c ∈ effs) :
    ∃ k, a = .callBegin k ∨ ∃ o, a = .callEnd k o := by
  cases PStep.of_pstep h with
  | submit => simp at hc
  | @start k t => rcases advEff_cases t with e | ⟨e, -⟩ <;> rw [e] at hc <;> simp at hc
  | callBegin => exact ⟨_, .inl rfl⟩
  | callEnd o => exact ⟨_, .inr ⟨o, rfl⟩⟩
  | put => simp at hc

end Ari.Conc
