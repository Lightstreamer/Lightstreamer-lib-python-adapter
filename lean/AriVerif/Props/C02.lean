import AriVerif.Conc.PropLemmas
/-!
# C02 — per-item subscribe/unsubscribe calls are serialized, ordered and paired
(model and quantifiers as in Props/C01.lean)
-/
namespace Ari.Conc

/-- **C02 (no overlap).** At most one thread is inside (or about to enter) an adapter call for the item. -/
theorem c02_no_overlap (s : IState) (h : Inv s) (k k' : Nat) (hk : k < s.ninst) (hk' : k' < s.ninst)
    (h1 : (s.insts k).pc.held ≠ none) (h2 : (s.insts k').pc.held ≠ none) : k = k' :=
  Option.some.inj ((h.cur_of_held hk h1).symm.trans (h.cur_of_held hk' h2))

/-- **C02 (arrival order).** Requests are processed strictly in arrival order: the completed ones are a
    prefix of the arrivals, and the one being processed is the next one. -/
theorem c02_order (s : IState) (h : Inv s) :
    (∃ rest, s.arr = s.fin ++ rest) ∧
    ∀ k, k < s.ninst → ∀ t, (s.insts k).pc.held = some t → s.arr[s.fin.length]? = some t := by
  refine ⟨⟨heldL s ++ qL s ++ rheldL s, by rw [h.seq]; simp⟩, ?_⟩
  intro k hk t ht
  rw [h.seq]
  simp [heldL, (h.holder hk ht).isCur, ht]

/-- **C02 (pairing).** `unsubscribe` begins only when the immediately preceding invocation for the item
    was the `subscribe` of the preceding request and it returned normally. -/
theorem c02_paired (s : IState) (h : Inv s) (k : Nat) (hk : k < s.ninst) (t : Task)
    (hpc : (s.insts k).pc = .callBegin .usb t) :
    ∃ p, s.fin.getLast? = some p ∧ p.isSub = true ∧ s.lastInv = some (.sub, p.id, true) :=
  h.usbPaired k (h.struct.cur_of_looping hk (by rw [hpc]; rfl)) t hpc

/-- **C02 (no call after a failed or skipped subscription).** When an unsubscription is taken up and the
    preceding subscription was skipped, failed, or its snapshot query failed, the adapter is not called. -/
theorem c02_usb_after_failure (s s' : IState) (e : List Eff) (hi : Inv s) (hwf : WF s.arr)
    (k : Nat) (t : Task) (rest : List Task) (hk : k < s.ninst) (hpc : (s.insts k).pc = .atLoop)
    (hq : (s.mgrs (s.insts k).gen).q = t :: rest) (ht : t.isSub = false)
    (h : istep s (.pop k) = some (s', e)) :
    ∃ p, s.fin.getLast? = some p ∧ p.isSub = true ∧
      ((s'.insts k).pc = .callBegin .usb t ↔ s.lastInv = some (.sub, p.id, true)) := by
  have hL := hi.atLoop hk hpc
  obtain ⟨p, hlast, hsub⟩ := (hi.sem.popV hwf hL.pc (hL.q.trans hq)).prev_sub hwf ht
  refine ⟨p, hlast, hsub, ?_⟩
  -- the outcome the pop reads is the view's `ok`, which between two tasks says how the last `subscribe` ended
  have hob : (view s).ok = true ↔ s.lastInv = some (.sub, p.id, true) :=
    hi.sem.outBetween (by simp [View.between, hL.pc, Pc.between]) p hlast hsub
  rw [← hob, ← hL.ok]
  cases hok : s.okAt k
  · obtain ⟨rfl, rfl⟩ := (IStep.pop_usb_skip hk hpc hq ht hok).unique h
    simp [setInst, addLog]
  · obtain ⟨rfl, rfl⟩ := (IStep.pop_usb hk hpc hq ht hok).unique h
    simp [setInst, addLog]

/-- **C02 (skipped only if a later request had arrived).** -/
theorem c02_skip_only_if_later (s : IState) (h : Inv s) (p : Task) (hp : p ∈ s.late) :
    s.arr.getLast? ≠ some p := h.lateSucc p hp

/-- **C02 (the latest request is executed).** A subscription that is the latest arrival for its item when
    it is taken up is executed, not skipped. -/
theorem c02_latest_executed (s s' : IState) (e : List Eff) (hi : Inv s) (hwf : WF s.arr)
    (k : Nat) (t : Task) (rest : List Task) (hk : k < s.ninst) (hpc : (s.insts k).pc = .atLoop)
    (hq : (s.mgrs (s.insts k).gen).q = t :: rest) (ht : t.isSub = true) (hlast : s.arr.getLast? = some t)
    (h : istep s (.pop k) = some (s', e)) : (s'.insts k).pc = .setCode t := by
  have hL := hi.atLoop hk hpc
  have hrest : rest = [] := Classical.byContradiction fun hr =>
    (hi.sem.popV hwf hL.pc (hL.q.trans hq)).notLast hr hlast
  subst hrest
  obtain ⟨rfl, rfl⟩ := (IStep.pop_sub hk hpc hq ht).unique h
  simp [setInst, addLog]

end Ari.Conc
