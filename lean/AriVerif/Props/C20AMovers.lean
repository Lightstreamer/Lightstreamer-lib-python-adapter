import AriVerif.Conc.AppCloseLemmas
/-!
# The two inferences the trace-acceptance check of `Conc/AppClose` makes are sound (right movers)

The real writer's *dequeue* and the reader's return from `on_exception` leave no event in the log; `harness/s_appclose.py`
places the dequeue immediately before the write it leads to, and the return at the end of the reader's actions.  That is
sound if moving these two steps to the right over any step of another thread changes nothing: whenever the real order
(step first, then the other thread's action) is a run of the model, so is the order the harness replays, with the same
resulting state.  (A dequeue of the *stop pill* is not moved: the harness places it before the `join` it enables.  A step
after which the process has exited ends the comparison: only the reports are compared then.)
-/
namespace Ari.AppClose

/-- the other threads only append to the queue and only ask whether the writer has ended: a step they take
    after the writer dequeued a line, they can take before. -/
theorem Step.undo_deq {s s2 : St} {act : Act} {n : Nat} (st : Step s act s2) (ha : act ≠ .wr) (hw : s.w = .send n) :
    Step { s with q := .line n :: s.q, w := .get } act { s2 with q := .line n :: s2.q, w := .get } := by
  cases st
  case getPill | getLine | sendFail | send => all_goals exact absurd rfl ha
  case join h => rw [hw] at h; cases h
  -- named before `constructor` is let loose: their successor states coincide with those of an earlier rule, which it would pick
  case wait hm h6 ht => exact .wait hm h6 ht
  case excRet h => exact .excRet h
  case recvClosed hr hc =>
    have := Step.recvClosed (s := { s with q := .line n :: s.q, w := .get }) hr hc
    rwa [recvFail_eq] at this ⊢
  case recvEof hr hc hi hp =>
    have := Step.recvEof (s := { s with q := .line n :: s.q, w := .get }) hr hc hi hp
    rwa [recvFail_eq] at this ⊢
  all_goals constructor <;> assumption

/-- **the writer's dequeue of a line is a right mover**: over any action of another thread that does not end the process. -/
theorem c20a_get_right_mover (s s1 s2 : St) (a : Act) (n : Nat) (rest : List Msg)
    (ha : a ≠ .wr) (hw : s.w = .get) (hq : s.q = .line n :: rest)
    (h1 : step s .wr = some s1) (h2 : step s1 a = some s2) (hx : s2.exited = false) :
    ∃ s1', step s a = some s1' ∧ step s1' .wr = some s2 := by
  obtain ⟨hx0, st1⟩ := Step.of_step h1
  obtain rfl : s1 = { s with q := rest, w := .send n } := by cases st1 <;> simp_all
  obtain ⟨-, st2⟩ := Step.of_step h2
  cases s
  subst hw hq
  refine ⟨_, (st2.undo_deq ha rfl).sound hx0, ?_⟩
  have hw2 : s2.w = .send n := (st2.wr_frame ha).1
  exact (Step.sound (s := { s2 with q := .line n :: s2.q, w := .get }) hx (.getLine n s2.q rfl rfl)).trans (by rw [← hw2])

/-- the other threads neither read nor write the reader's pc. -/
theorem Step.set_r {s s' : St} {act : Act} (st : Step s act s') (ha : act ≠ .rd) (hf : act ≠ .rfal) (x : RPc) :
    Step { s with r := x } act { s' with r := x } ∧ s'.r = s.r := by
  cases st
  case rfal | testStop | testGo | recvClosed | recvEof | recv | procNil | procInit | procExc | procTask | excRet =>
    all_goals first | exact absurd rfl ha | exact absurd rfl hf
  case sendFail n hw hf' =>
    have := Step.sendFail (s := { s with r := x }) n hw hf'
    simp only [report_eq] at this ⊢
    exact ⟨this, trivial⟩
  case wait hm h6 ht => exact ⟨.wait hm h6 ht, rfl⟩
  all_goals exact ⟨by constructor <;> assumption, rfl⟩

/-- **the reader's return from `on_exception` is a right mover**: over any action of another thread. -/
theorem c20a_exc_return_right_mover (s s1 s2 : St) (a : Act)
    (ha : a ≠ .rd) (hf : a ≠ .rfal) (hr : s.r = .exc)
    (h1 : step s .rd = some s1) (h2 : step s1 a = some s2) (hx : s2.exited = false) :
    ∃ s1', step s a = some s1' ∧ step s1' .rd = some s2 := by
  obtain ⟨hx0, st1⟩ := Step.of_step h1
  obtain rfl : s1 = { s with r := .done } := by cases st1 <;> simp_all
  obtain ⟨-, st2⟩ := Step.of_step h2
  obtain ⟨st, (hr2 : s2.r = .done)⟩ := st2.set_r ha hf s.r
  refine ⟨_, st.sound hx0, ?_⟩
  exact (Step.sound (s := { s2 with r := s.r }) hx (.excRet hr)).trans (by rw [← hr2])

end Ari.AppClose
