import AriVerif.Conc.PropLemmas
/-!
# C01 — every SUB/USB request is answered exactly once, under every interleaving

Model: `Conc.Item` (one item's machine; the server is the item-indexed product, DESIGN §3).  `Reach item s`
quantifies over every finite sequence of actions: every schedule of reader, dequeuer instances (any pool
size) and listener-calling threads, every arrival timing, every adapter outcome.  `WF s.arr` is the
protocol's hypothesis on the Proxy Adapter: distinct ids, SUB/USB alternating per item, SUB first.
Ghost state: `arr` = requests in dispatch order, `repl` = ids whose reply was enqueued (in order),
`fin` = requests completely processed, `lost` = unsubscriptions that found no bookkeeping (dropped).
-/
namespace Ari.Conc

/-- **C01 (at most one reply).** No request id is ever answered twice. -/
theorem c01_at_most_once (item : String) (s : IState) (hr : Reach item s) (hwf : WF s.arr) :
    s.repl.Nodup := (inv_reach item s hr hwf).replNodup

/-- **C01 (replies answer requests).** Every reply carries the id of a request that arrived for this item. -/
theorem c01_reply_for_request (item : String) (s : IState) (hr : Reach item s) (hwf : WF s.arr)
    (r : String) (h : r ∈ s.repl) : hasId s.arr r := by
  have hi := inv_reach item s hr hwf
  -- the request is finished, or it is the one held at `clearCode`: both are parts of `arr` (`seq`)
  rcases hi.replOnly r h with ⟨t, ht, rfl⟩ | ⟨k, t, hc, hpc, rfl⟩
  · exact ⟨t, by simp [hi.seq, ht], rfl⟩
  · exact ⟨t, by simp [hi.seq, heldL, hc, hpc, Pc.held], rfl⟩

/-- **C01 (no request is dropped).** An unsubscription always finds its item's bookkeeping. -/
theorem c01_never_lost (item : String) (s : IState) (hr : Reach item s) (hwf : WF s.arr) : s.lost = [] :=
  (inv_reach item s hr hwf).lostNone

/-- **C01 (exactly one reply at quiescence).** Once the reader is idle and every dequeuer has finished,
    every request that arrived has been answered (exactly once by `c01_at_most_once`). -/
theorem c01_quiescent (item : String) (s : IState) (hr : Reach item s) (hwf : WF s.arr) (hq : Quiescent s) :
    s.fin = s.arr ∧ ∀ t ∈ s.arr, t.id ∈ s.repl := by
  have hi := inv_reach item s hr hwf
  have hf := hi.quiescent_arr_fin hq
  refine ⟨hf.symm, fun t ht => hi.replFin t (hf ▸ ht) ?_⟩
  rw [hi.lostNone]
  simp

/-- **C01 (no deadlock).** While something is left to do, some library step is enabled — whatever the
    other threads do, provided adapter calls return (`callEnd` is the environment's). -/
theorem c01_progress (s : IState) (h : Inv s) (hnq : ¬ Quiescent s) :
    (∃ a, a.isLib = true ∧ (istep s a).isSome) ∨
    (∃ k m t, k < s.ninst ∧ (s.insts k).pc = .inCall m t ∧ (s.insts k).lsn = none) := by
  have _ := h  -- enabledness needs no invariant; `h` is kept in the statement for uniformity
  cases hrh : s.rheld with
  | some tg =>
    exact .inl ⟨.addTask, rfl, istep_addTask_isSome s (by rw [hrh]; rfl)⟩
  | none =>
    -- some dequeuer instance has not finished: outside an adapter call its own action is enabled
    obtain ⟨k, hk, hd⟩ : ∃ k, k < s.ninst ∧ (s.insts k).pc ≠ .done := by simpa [Quiescent, hrh] using hnq
    have hen := istep_inst_isSome hk
    cases hpc : (s.insts k).pc with
    | inCall m t =>
      cases hl : (s.insts k).lsn with
      | none => exact .inr ⟨k, m, t, hk, hpc, hl⟩
      | some line => exact .inl ⟨.lsnPut (.inst k), rfl, (IStep.lsnPut_inst hk hl).isSome⟩
    | done => exact absurd hpc hd
    | _ => rw [hpc] at hen; exact .inl ⟨_, by rfl, hen⟩

/-- a skipped subscription is answered with the `SubscribeError` "too late" reply — never left unanswered. -/
theorem c01_late_sub_reply (s s' : IState) (e : List Eff) (k : Nat) (t p : Task) (rest : List Task)
    (hk : k < s.ninst) (hpc : (s.insts k).pc = .atLoop) (hq : (s.mgrs (s.insts k).gen).q = t :: p :: rest)
    (ht : t.isSub = true) (h : istep s (.pop k) = some (s', e)) :
    (s'.insts k).pc = .put t (t.id ++ "|" ++ writeError "SUB" subscribeLate) .atLoop ∧ t ∈ s'.late := by
  obtain ⟨rfl, rfl⟩ := (IStep.pop_late hk hpc hq ht (List.cons_ne_nil _ _)).unique h
  simp [setInst, addLog, replyLine]

/-- the adapter's `subscribe` returned normally → `V`; raised → the adapter's error (typed by C08). -/
theorem c01_sub_reply (s s' : IState) (e : List Eff) (k : Nat) (t : Task) (o : CallOut)
    (hk : k < s.ninst) (hpc : (s.insts k).pc = .inCall .sub t) (hl : (s.insts k).lsn = none)
    (h : istep s (.callEnd k o) = some (s', e)) :
    (s'.insts k).pc = .put t (t.id ++ "|" ++ (match o with
        | .ret _ => writeVoid "SUB"
        | .raise ex => writeError "SUB" ex)) .atLoop := by
  cases o with
  | ret b => obtain ⟨rfl, rfl⟩ := (IStep.callEnd_sub_ret hk hpc hl).unique h; simp [setInst, replyLine]
  | raise ex => obtain ⟨rfl, rfl⟩ := (IStep.callEnd_sub_raise hk hpc hl).unique h; simp [setInst, replyLine]

/-- `unsubscribe` returned normally → `V`; raised → the adapter's error. -/
theorem c01_usb_reply (s s' : IState) (e : List Eff) (k : Nat) (t : Task) (o : CallOut)
    (hk : k < s.ninst) (hpc : (s.insts k).pc = .inCall .usb t) (hl : (s.insts k).lsn = none)
    (h : istep s (.callEnd k o) = some (s', e)) :
    (s'.insts k).pc = .put t (t.id ++ "|" ++ (match o with
        | .ret _ => writeVoid "USB"
        | .raise ex => writeError "USB" ex)) (.clearCode t) := by
  cases o with
  | ret b => obtain ⟨rfl, rfl⟩ := (IStep.callEnd_usb_ret hk hpc hl).unique h; simp [setInst, replyLine]
  | raise ex => obtain ⟨rfl, rfl⟩ := (IStep.callEnd_usb_raise hk hpc hl).unique h; simp [setInst, replyLine]

/-- an unsubscription with nothing to undo is acknowledged with `V` without calling the adapter. -/
theorem c01_usb_nothing_to_undo (s s' : IState) (e : List Eff) (k : Nat) (t : Task) (rest : List Task)
    (hk : k < s.ninst) (hpc : (s.insts k).pc = .atLoop) (hq : (s.mgrs (s.insts k).gen).q = t :: rest)
    (ht : t.isSub = false)
    (hok : (if (s.insts k).deq = 0 then (s.mgrs (s.insts k).gen).lastOk else (s.insts k).ok) = false)
    (h : istep s (.pop k) = some (s', e)) :
    (s'.insts k).pc = .put t (t.id ++ "|" ++ writeVoid "USB") (.clearCode t) := by
  obtain ⟨rfl, rfl⟩ := (IStep.pop_usb_skip hk hpc hq ht hok).unique h
  simp [setInst, addLog, replyLine]

/-- the enqueue step writes exactly the prepared line and nothing else. -/
theorem c01_put_enqueues (s s' : IState) (e : List Eff) (k : Nat) (t : Task) (l : String) (n : Pc)
    (hk : k < s.ninst) (hpc : (s.insts k).pc = .put t l n) (h : istep s (.put k) = some (s', e)) :
    s'.out = s.out ++ [l] ∧ (s'.insts k).pc = n := by
  have _ := hk  -- not needed: a guard of every branch `h` can have taken
  cases IStep.of_istep h <;> simp_all [setInst, addLog, addOut, finish, replied]

-- non-vacuity (a test, labelled as such): SUB, USB, SUB pipelined while the first subscribe runs; the middle
-- requests are handled, the late branch is taken, and the history is well-formed
example : ∃ s, Reach "i" s ∧ WF s.arr ∧ s.late ≠ [] := by
  refine ⟨_, ⟨[.lockMgr ⟨"1", true⟩, .addTask, .start 0, .pop 0, .setCode 0, .callBegin 0,
    .lockMgr ⟨"2", false⟩, .addTask, .lockMgr ⟨"3", true⟩, .addTask, .lockMgr ⟨"4", false⟩, .addTask,
    .callEnd 0 (.ret false), .callBegin 0, .callEnd 0 (.ret false), .put 0, .pop 0, .callBegin 0,
    .callEnd 0 (.ret false), .put 0, .clearCode 0, .pop 0], rfl⟩, ?_, ?_⟩ <;> decide

end Ari.Conc
