import AriVerif.Gen.State
import AriVerif.Spec.State
/-!
# The codec layer is pure in the current source

`Gen.sharedState` is regenerated from the source on every run.  The codec models (`Codec`, `Wire`, `Requests`, `Replies`,
`Errors`) are functions; the differentials run the real functions in one thread.  Both are adequate only if the real functions
keep no state between calls — no module global written, no cache, no class-level container.
-/
namespace Ari

theorem state_codec_from_source :
    Spec.stateRows Gen.sharedState ["protocol.py", "data_protocol.py", "metadata_protocol.py", "exceptions.py"] =
    Spec.stateRows Spec.sharedState ["protocol.py", "data_protocol.py", "metadata_protocol.py", "exceptions.py"] := rfl

end Ari
