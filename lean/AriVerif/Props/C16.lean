import AriVerif.Props.C13
import AriVerif.Conc.ItemStep
/-!
# C16 — outbound messages are atomic lines in per-thread submission order

Two layers.  (1) The writer (`Sender`, proved in Props/C13.lean): the lines written that are not keepalives
are exactly the messages enqueued, in enqueue order, each written whole at once — `c16_fifo` restates
`c13_transparent`.  (2) Who enqueues what, in which order (`Conc.Item`): a thread's enqueues are appended to
the queue in the order it performs them, and the reply of a subscription is enqueued only after every event
the same worker submitted from inside `subscribe()` (`c16_inside`).  That the real queue is FIFO and that one
`sendall` is one contiguous line on the socket are the shim's / the OS's (co-simulation + a real-thread test
over a socket pair in the thorough tier).
-/
namespace Ari

/-- **C16 (FIFO, atomic, nothing lost or duplicated).** -/
theorem c16_fifo (tie : Bool) (k0 : Nat) (evs : List (Nat × SAct)) (hz : Nat)
    (hns : ∀ e ∈ evs, e.2 ≠ .stop) :
    ((senderRun tie k0 evs hz).filter (fun w => w.cause == .msg)).map (fun w => w.line) =
      evs.filterMap (fun e => match e.2 with | .put m => some m | _ => none) := by
  have h := congrArg (List.map Prod.snd) (c13_transparent tie k0 evs hz hns)
  rw [List.map_map, List.map_filterMap] at h
  rw [show (fun w : Written => w.line) = Prod.snd ∘ fun w => (w.time, w.line) from rfl, h]
  congr 1
  funext ⟨t, a⟩
  cases a <;> rfl

namespace Conc

/-- **C16 (the queue only grows at its end).** Every step appends to the item's outbound sequence; nothing
    already enqueued is reordered, changed or removed. -/
theorem c16_append_only (s s' : IState) (a : IAct) (e : List Eff) (h : istep s a = some (s', e)) :
    ∃ l, s'.out = s.out ++ l := ⟨_, istep_out h⟩

/-- **C16 (events from inside subscribe() precede its reply).** The adapter call can only end — and hence the
    reply can only be prepared and enqueued — when the calling worker has no listener enqueue pending: every
    event it submitted from inside the call is already in the queue. -/
theorem c16_inside (s s' : IState) (k : Nat) (o : CallOut) (e : List Eff)
    (h : istep s (.callEnd k o) = some (s', e)) : (s.insts k).lsn = none ∧ s'.out = s.out := by
  cases IStep.of_istep h <;> exact ⟨‹_›, rfl⟩

end Conc
end Ari
