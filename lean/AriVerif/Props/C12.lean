import AriVerif.KeepAlive
/-!
# C12 — keepalive negotiation: a positive Proxy hint is always honoured (1 s floor)

Stated over `Ari.effective`, which is composed of definitions *generated from server.py on every
run* (`Gen.useHint`, `Gen.configuredMs`, `Gen.initialKeepAlive`, `Gen.changeKeepAlive`), for every
configured value and every hint in `Rat` (all fractions, negatives, zero).
-/
namespace Ari

/-- the specification, written from the property text (seconds). -/
def specInterval (keepAlive : Option Rat) (hint : Option Rat) : Rat :=
  let floor (h : Rat) : Rat := (max h 1000) / 1000
  match hint with
  | none => (match keepAlive with | none => 1 | some k => max 0 k)          -- configured stands (1 s if none)
  | some h =>
    if h ≤ 0 then (match keepAlive with | none => 10 | some k => max 0 k)   -- changes nothing
    else match keepAlive with
      | none => if h < 10000 then floor h else 10                           -- stricter than default 10 s
      | some k => if 0 < k then (if h < k * 1000 then floor h else k)       -- stricter than configured
                  else floor h                                              -- configured off: hint forces them on

/-- **C12 (the whole rule).** For every configuration and every hint, the interval in force (both the
    published property and the writer's wait) is the specified one. -/
theorem c12_rule (ka hint : Option Rat) :
    effective ka hint = (specInterval ka hint, specInterval ka hint) := by
  unfold effective specInterval Gen.useHint Gen.configuredMs Gen.initialKeepAlive Gen.changeKeepAlive
  -- both sides are nests of `if`s over comparisons in `Rat`: `grind` splits them and does the linear arithmetic
  cases ka <;> cases hint <;> simp only [] <;> grind

/-- **C12 (no hint).** -/
theorem c12_no_hint (ka : Option Rat) :
    (effective ka none).2 = (match ka with | none => 1 | some k => max 0 k) := by
  rw [c12_rule]; rfl

/-- **C12 (non-positive hint changes nothing).** -/
theorem c12_nonpositive (ka : Option Rat) (h : Rat) (hh : h ≤ 0) :
    effective ka (some h) = (Gen.initialKeepAlive ka, Gen.initialKeepAlive ka) := by
  rw [c12_rule]
  unfold specInterval Gen.initialKeepAlive
  cases ka <;> simp only [] <;> grind

/-- **C12 (a positive hint is always honoured).** Whenever the Proxy Adapter asks for a positive
    interval, keepalives are enabled afterwards (the writer takes the timed wait) and the interval in
    force never exceeds `max(hint, 1 s)` — even if keepalives were configured off. -/
theorem c12_honoured (ka : Option Rat) (h : Rat) (hh : 0 < h) :
    0 < (effective ka (some h)).2 ∧ (effective ka (some h)).2 * 1000 ≤ max h 1000 ∧
    Gen.senderTimed (effective ka (some h)).2 = true ∧
    (effective ka (some h)).1 = (effective ka (some h)).2 := by
  rw [c12_rule]
  unfold specInterval Gen.senderTimed
  cases ka <;> simp only [] <;> grind

-- non-vacuity / concrete instances (tests, labelled as such)
example : (effective (some 0) (some 300)).2 = 1 := by rw [c12_rule]; decide +kernel
example : (effective none (some 2500)).2 = 5/2 := by rw [c12_rule]; decide +kernel
example : (effective (some 5) (some 7000)).2 = 5 := by rw [c12_rule]; decide +kernel

end Ari
