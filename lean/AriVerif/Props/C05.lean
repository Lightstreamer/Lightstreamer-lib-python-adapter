import AriVerif.Lemmas.Codec
/-!
# C05 — text codec: separator-free token per value, exact round trip, no collisions

All statements are about `Ari.encodeString` / `Ari.decodeString` (model of
`protocol.encode_string` / `protocol.decode_string`, tied to the code by the pure
differential `codec` stream of harness/s_codec.py) and hold for **every** `String`
(every Python `str` without lone surrogates), `""` and `none`.
-/
namespace Ari

theorem tokenChar_excludes :
    tokenChar '|' = false ∧ tokenChar '\r' = false ∧ tokenChar '\n' = false ∧
    tokenChar ' ' = false ∧ tokenChar '\t' = false ∧ tokenChar '#' = false ∧
    tokenChar '$' = false := by decide

/-- **C05 (alphabet, non-empty).** The encoding of a non-empty string is a non-empty token over
    `A–Z a–z 0–9 _ . - ~ + %`. -/
theorem c05_charset (s : String) (h : s ≠ "") :
    (encodeString (some s)).toList ≠ [] ∧
    ∀ c ∈ (encodeString (some s)).toList, tokenChar c = true := by
  simp only [encodeString, if_neg h, String.toList_ofList]
  refine ⟨quotePlus_ne_nil _ (fun hh => h (utf8_eq_nil hh)), quotePlus_tokenChar _⟩

/-- **C05 (no separator).** No encoding (of any value, incl. `None` and `""`) contains the field
    separator, CR, LF, blank or tab, and none is empty. -/
theorem c05_no_sep (v : Option String) :
    (encodeString v).toList ≠ [] ∧
    ∀ c ∈ (encodeString v).toList, c ≠ '|' ∧ c ≠ '\r' ∧ c ≠ '\n' ∧ c ≠ ' ' ∧ c ≠ '\t' := by
  match v with
  | none => simp [encodeString]
  | some s =>
    by_cases h : s = ""
    · subst h; simp [encodeString]
    · obtain ⟨h1, h2⟩ := c05_charset s h
      refine ⟨h1, ?_⟩
      intro c hc
      have ht := h2 c hc
      refine ⟨?_, ?_, ?_, ?_, ?_⟩ <;> (intro hh; subst hh; revert ht; decide)

/-- **C05 (reserved tokens).** `#` is produced only for `None`, `$` only for `""`. -/
theorem c05_special (v : Option String) :
    (encodeString v = "#" ↔ v = none) ∧ (encodeString v = "$" ↔ v = some "") := by
  match v with
  | none => simp [encodeString]
  | some s =>
    by_cases h : s = ""
    · subst h; simp [encodeString]
    · obtain ⟨_, h2⟩ := c05_charset s h
      constructor
      · constructor
        · intro he
          have := h2 '#' (by rw [he]; decide)
          exact absurd this (by decide)
        · intro hh; cases hh
      · constructor
        · intro he
          have := h2 '$' (by rw [he]; decide)
          exact absurd this (by decide)
        · intro hh; exact absurd (Option.some.inj hh) h

/-- A token is an *alternative URL-encoding* of a byte string when it represents it byte by byte
    as `%XX` (either hex case), as `+` for 0x20, or as the literal ASCII character for a byte
    other than `%` and `+`. -/
inductive AltEnc : Bytes → List Char → Prop
  | nil : AltEnc [] []
  | lit (c : Char) (b : UInt8) {bs t} : c.toNat < 128 → c ≠ '+' → c ≠ '%' → b.toNat = c.toNat →
      AltEnc bs t → AltEnc (b :: bs) (c :: t)
  | plus {bs t} : AltEnc bs t → AltEnc (32 :: bs) ('+' :: t)
  | pct (h1 h2 : Char) (a b : Nat) {bs t} : hexVal? h1 = some a → hexVal? h2 = some b →
      AltEnc bs t → AltEnc (UInt8.ofNat (a * 16 + b) :: bs) ('%' :: h1 :: h2 :: t)

theorem utf8EncodeChar_ascii : ∀ n, n < 128 →
    String.utf8EncodeChar (Char.ofNat n) = [UInt8.ofNat n] := by decide +kernel

theorem unq_altEnc {bs : Bytes} {t : List Char} (h : AltEnc bs t) : unq t = bs := by
  induction h with
  | nil => exact unq_nil
  | lit c b hc h1 h2 hb _ ih =>
    rw [unq_lit c _ h1 h2, ih]
    have hc' : c = Char.ofNat c.toNat := by simp
    rw [hc', utf8EncodeChar_ascii c.toNat hc, ← hb]; simp
  | plus _ ih => rw [unq_plus, ih]
  | pct h1 h2 a b ha hb _ ih => rw [unq_pct h1 h2 a b _ ha hb, ih]

/-- **C05 (decoder accepts every standard URL-encoding).** Upper/lower-case hex, literal `*`,
    escaped `~`, `+` or `%20` for a blank … all decode to the same value. -/
theorem c05_accepts_alternatives (s : String) (t : String) (h : AltEnc (utf8 s) t.toList)
    (h1 : t ≠ "#") (h2 : t ≠ "$") : decodeString t = .val (some s) := by
  unfold decodeString
  rw [if_neg h1, if_neg h2, unq_altEnc h, fromUtf8_utf8]

theorem altEnc_encByte (b : UInt8) {bs : Bytes} {t : List Char} (h : AltEnc bs t) :
    AltEnc (b :: bs) (encByte b ++ t) := by
  have hlt := b.toNat_lt
  unfold encByte
  split
  · rename_i hu
    obtain ⟨h1, hc, h2, h3⟩ := unreserved_ascii b.toNat hlt (by simpa using hu)
    exact .lit _ b (by omega) h2 h3 hc.symm h
  · split
    · rename_i h32
      have : b = 32 := UInt8.toNat_inj.mp (by simpa using h32)
      subst this; exact .plus h
    · have := AltEnc.pct _ _ _ _ (hexVal_hexU (b.toNat / 16) (by omega)) (hexVal_hexU (b.toNat % 16) (by omega)) h
      rwa [Nat.div_add_mod' b.toNat 16, UInt8.ofNat_toNat] at this

/-- the encoder's own output is one of the alternative encodings, so the round trip is an instance of
    `c05_accepts_alternatives`. -/
theorem altEnc_quotePlus (bs : Bytes) : AltEnc bs (quotePlus bs) := by
  induction bs with
  | nil => exact .nil
  | cons b bs ih => exact altEnc_encByte b ih

/-- **C05 (round trip).** Decoding the encoding returns exactly the original value. -/
theorem c05_roundtrip (v : Option String) : decodeString (encodeString v) = .val v := by
  match v with
  | none => rfl
  | some s =>
    by_cases h : s = ""
    · subst h; rfl
    · have hs := c05_special (some s)
      refine c05_accepts_alternatives s _ ?_ (fun he => nomatch hs.1.mp he)
        (fun he => h (Option.some.inj (hs.2.mp he)))
      simp only [encodeString, if_neg h, String.toList_ofList]
      exact altEnc_quotePlus _

/-- **C05 (no collisions).** Distinct values never share an encoding. -/
theorem c05_injective (v w : Option String) (h : encodeString v = encodeString w) : v = w := by
  have h1 := c05_roundtrip v
  rw [h, c05_roundtrip w] at h1
  exact (Dec.val.inj h1).symm

/-- a hand-built alternative encoding (`%20` where the encoder writes `+`). -/
example : AltEnc (utf8 "a b") "a%20b".toList := by
  have : utf8 "a b" = [97, 32, 98] := by decide
  rw [this]
  exact .lit 'a' 97 (by decide) (by decide) (by decide) (by decide)
    (.pct '2' '0' 2 0 (by decide) (by decide)
      (.lit 'b' 98 (by decide) (by decide) (by decide) (by decide) .nil))

-- concrete, non-trivial instances (tests, labelled as such): multi-byte and reserved characters
example : encodeString (some "a b|c") = "a+b%7Cc" := by decide
example : encodeString (some "€") = "%E2%82%AC" := by decide
example : decodeString "%e2%82%ac*%7E+" = .val (some "€*~ ") := by decide +kernel
example : decodeString "%ff" = .invalid := by decide +kernel

end Ari
