import AriVerif.Gen.Skeleton
import AriVerif.Spec.Skeleton
/-!
# The structure the models assume is the structure of the current source — group **Sender**
The writer thread and the single send queue (`Sender.lean`, C13 / C16).
-/
namespace Ari

theorem skel_sender_from_source : Gen.skelSender = Spec.expectedSender := rfl

theorem writers_sender_from_source :
    rowsOf Gen.writers ["_keepalive", "_send_queue"] = rowsOf Spec.expectedWriters ["_keepalive", "_send_queue"] := rfl

end Ari
