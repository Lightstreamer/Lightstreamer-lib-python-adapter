import AriVerif.Gen.Skeleton
import AriVerif.Spec.Skeleton
/-!
# The structure the concurrent models assume is the structure of the current source — group **Sub**

`Gen.skelSub` / `Gen.writers` are regenerated from subscription.py and server.py on every run; `Spec.expectedSub` /
`Spec.expectedWriters` are the hand-maintained record of what `Conc.Item`'s atomic actions stand for.
-/
namespace Ari

/-- lock sections, shared-state accesses, calls and control structure of the per-item subscription machinery are the
    recorded ones. -/
theorem skel_sub_from_source : Gen.skelSub = Spec.expectedSub := rfl

/-- only the recorded methods assign the per-item shared state. -/
theorem writers_sub_from_source :
    rowsOf Gen.writers ["_code", "_queued", "_isrunning", "_last_subscribe_outcome", "_active_items", "_tasks_deq"] =
    rowsOf Spec.expectedWriters ["_code", "_queued", "_isrunning", "_last_subscribe_outcome", "_active_items", "_tasks_deq"] := rfl

end Ari
