import AriVerif.Gen.Skeleton
import AriVerif.Spec.Skeleton
/-!
# The structure the models assume is the structure of the current source — group **Lifecycle**
`start()` and `close()` (`Startup.lean`, `Dispatch.act`; C10, C14, C20): in particular nothing but `__init__` and `_handle_request` assigns `init_expected`.
-/
namespace Ari

theorem skel_lifecycle_from_source : Gen.skelLifecycle = Spec.expectedLifecycle := rfl

theorem writers_lifecycle_from_source :
    rowsOf Gen.writers ["_request_manager", "_server_sock", "_executor", "init_expected", "_close_expected"] = rowsOf Spec.expectedWriters ["_request_manager", "_server_sock", "_executor", "init_expected", "_close_expected"] := rfl

end Ari
