import AriVerif.Startup
import AriVerif.Props.C07
/-!
# C14 — the credentials message is the first message on every connection

`suRun` quantifies over every interleaving of the starting thread (`Server.start`), the writer and all other
producers of messages (which exist only once the reader thread has been started — the guard of `.enqueue`).
The order of the steps of `start()` and the fact that no reader-side chunk precedes the credentials enqueue
are checked in lock-step by the Data / Metadata co-simulations (threads `M`, `W`, `R` of Conc/Data.lean follow
exactly this start-up), with request bytes already readable before `start()` is called.
-/
namespace Ari

/-- invariant for the credentials line `line` of the configuration: everything written or queued so far, in
    order, starts with `line` as soon as it has been enqueued, and nothing at all is queued or written before. -/
def SUInv (line : String) (s : SUState) : Prop :=
  racLine s = line ∧
  (s.mpc < 2 → s.q = [] ∧ s.written = []) ∧
  (2 ≤ s.mpc → ∃ rest, s.written ++ s.q = line :: rest)

theorem suStep_inv {line : String} {s s' : SUState} {a : SUAct} (h : SUInv line s)
    (hs : suStep s a = some s') : SUInv line s' := by
  obtain ⟨hl, hbefore, hafter⟩ := h
  cases a with
  | main =>
    simp only [suStep] at hs
    split at hs
    · -- `mpc = 0`, the writer thread is started: nothing is queued yet
      cases hs
      exact ⟨hl, fun _ => hbefore (by omega), fun hh => by simp at hh⟩
    split at hs
    · -- `mpc = 1`: the credentials line enters the empty queue
      cases hs
      obtain ⟨hq, hw⟩ := hbefore (by omega)
      exact ⟨hl, by simp, fun _ => ⟨[], by simp [hq, hw, hl]⟩⟩
    split at hs
    · -- `mpc = 2`, the reader thread is started
      cases hs
      exact ⟨hl, by simp, fun _ => hafter (by omega)⟩
    · cases hs
  | enqueue m =>
    simp only [suStep] at hs
    split at hs
    · -- only once the reader runs (`mpc = 3`), hence behind the credentials line
      cases hs
      obtain ⟨rest, hr⟩ := hafter (by omega)
      refine ⟨hl, fun hh => ?_, fun _ => ⟨rest ++ [m], by simp [← List.append_assoc, hr]⟩⟩
      simp only [] at hh
      omega
    · cases hs
  | write =>
    simp only [suStep] at hs
    split at hs
    · split at hs
      · -- the head of the queue moves to the end of what was written
        cases hs
        rename_i m rest hq
        refine ⟨hl, fun hh => ?_, fun hh => ?_⟩
        · have := (hbefore hh).1
          simp [hq] at this
        · obtain ⟨r, hr⟩ := hafter hh
          exact ⟨r, by simpa [hq] using hr⟩
      · cases hs
    · cases hs

theorem suRun_inv {line : String} (acts : List SUAct) {s0 s : SUState} (h : SUInv line s0)
    (hr : suRun s0 acts = some s) : SUInv line s := by
  induction acts generalizing s0 with
  | nil => cases hr; exact h
  | cons a rest ih =>
    simp only [suRun] at hr
    split at hr
    · rename_i s1 hs1; exact ih (suStep_inv h hs1) hr
    · cases hr

/-- **C14 (first, on every schedule).** In every state reached by any interleaving, as soon as anything is
    queued or written the first message is the credentials message with id 1 — in particular it is written
    before the reply to any request, however early requests arrive. -/
theorem c14_first (user password : Option String) (acts : List SUAct) (s : SUState)
    (h : suRun { user := user, password := password } acts = some s) :
    ∀ m rest, s.written ++ s.q = m :: rest → m = "1|" ++ writeCredentials user password := by
  obtain ⟨_, h1, h2⟩ := suRun_inv acts (line := "1|" ++ writeCredentials user password)
    ⟨by simp only [racLine], by simp, by simp⟩ h
  intro m rest hm
  by_cases hlt : s.mpc < 2
  · have := h1 hlt; simp [this.1, this.2] at hm
  · obtain ⟨r, hr⟩ := h2 (by omega)
    rw [hr] at hm
    exact (List.cons.inj hm).1.symm

/-- **C14 (reader-side messages come later).** No reader-side producer can enqueue before the credentials
    message has been enqueued and the reader thread started. -/
theorem c14_others_later (s s' : SUState) (m : String) (h : suStep s (.enqueue m) = some s') : s.mpc = 3 := by
  simp only [suStep] at h
  split at h
  · assumption
  · cases h

/-- **C14 (content).** The message carries `user` / `password` iff each is configured (an empty string is the
    empty token), always requests close packets and names the SDK, every value a text token: see
    `c07_credentials_line`, `c07_credentials_decode`, `c07_tokens_ok`. -/
theorem c14_content (user password : Option String) :
    writeCredentials user password = joinBar (credToks user password) ∧
    Spec.decodeParams (credToks user password).tail =
      some ((match user with | some u => [("user", Dec.val (some u))] | none => [])
        ++ (match password with | some p => [("password", Dec.val (some p))] | none => [])
        ++ [("enableClosePacket", .val (some "true")), ("SDK", .val (some "Python Adapter SDK"))]) :=
  ⟨c07_credentials_line user password, c07_credentials_decode user password⟩

end Ari
