import AriVerif.Props.C11
import AriVerif.Props.C12
/-!
# C12 — "… whether or not initialization itself succeeds"

`Ari.onInit` (Init.lean) composes the version prologue / epilogue **generated from `_on_init` on every run**
with the adapter outcomes; the translator additionally checks that `_use_keep_alive_hint(keep_alive_hint)` is
the statement following the `try` of `_on_init` (constant `Gen.hintAppliedOnEveryPath`; a different shape is a
broken tie).  Whatever the announced version (accepted, refused, absent), whatever `initialize` and
`set_listener` do, the interval in force after the init request is the one of `c12_rule`.
-/
namespace Ari

/-- the hint the Proxy Adapter sent, if any (`hintValue` is its numeric value as `float()` reads it). -/
def InitIn.hint (i : InitIn) : Option Rat :=
  if (match pdGet (dictOf i.pairs) keepaliveKey with | some (.str (some _)) => true | _ => false)
  then i.hintValue else none

/-- **C12 (every init outcome).** For every init request and every outcome of the version negotiation and of
    the adapter's `initialize` / `set_listener`, the keepalive interval in force afterwards (published value
    and writer's wait) is the specified function of the configured value and the hint alone. -/
theorem c12_every_init_outcome (i : InitIn) :
    (onInit i).keepAlive = (specInterval i.keepAlive i.hint, specInterval i.keepAlive i.hint) := by
  rw [c11_hint_independent, c12_rule]; rfl

/-- the structural fact checked by the translator on the current source. -/
theorem c12_hint_applied_on_every_path : Gen.hintAppliedOnEveryPath = true := c11_shape.2

-- non-vacuity (a test, labelled as such): a Data init request without version is refused, and the strict 1 s
-- default is in force afterwards
example : (onInit ⟨.dataK, [], none, none, true, none, none, .ret .none, .ret .none⟩).keepAlive = (1, 1) ∧
    (onInit ⟨.dataK, [], none, none, true, none, none, .ret .none, .ret .none⟩).initArgs = none := by
  decide +kernel

end Ari
