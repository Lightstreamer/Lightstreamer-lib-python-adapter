import AriVerif.Conc.AppCloseLemmas
/-!
# C20 — the application's own `close()` (from another thread, possibly repeated)

Clauses of C20 decided here, on the model `Conc/AppClose.lean`, for **every** schedule of the application thread, the
reader, the writer and the pool tasks, every inbound stream, every position of a peer failure and of a failing write,
every handler configuration and any number of `close()` calls:

* "a read failure caused by the server's own `close()` is not reported" — `c20a_own_close_not_reported`,
  `c20a_no_fault_no_report`, `c20a_writer_never_writes_closed`;
* "`close()` may be called again without error" — `c20a_again` (every step of a repeated call is enabled at once and
  changes nothing but one more stop pill in the queue);
* "already accepted worker tasks complete, the writer stops, the socket is closed" — `c20a_closed`, `c20a_fifo`,
  `c20a_flushed`, `c20a_app_progress`, `c20a_reader_ends`;
* the report discipline under a concurrent `close()` — `c20a_report_once`, `c20a_exit_iff`.
-/
namespace Ari.AppClose

/-- the reader's distance from `.done` once `close()` has closed the socket (`c20a_reader_ends`): every reader step then
    lowers it; while processing a chunk it is the number of requests left plus the two steps (back to the test, then
    `.done`) that follow. -/
def rmeasure : RPc → Nat
  | .done => 0
  | .exc => 1
  | .test => 1
  | .recv => 1
  | .proc rs => rs.length + 2

variable {hnd : Hnd} {failAt : Option Nat} {closes : Nat} {inbound : List (List Req)} {peerFault : Bool} {s : St}

/-- **A read failure caused by the server's own close() is not reported.** Whenever the reader reports an I/O failure, the
    stop flag was clear and the socket had not been closed by `close()`: the peer had failed. -/
theorem c20a_own_close_not_reported (h : Reach (init hnd failAt closes inbound peerFault) s) :
    ∀ rep ∈ s.ioRep, rep.who = .reader → rep.stop = false ∧ rep.sockClosed = false ∧ rep.peerFault = true :=
  (inv_reach h).c.rrep

/-- With a healthy peer and healthy writes nothing is ever reported and the process never exits, however the application's
    `close()` calls interleave with the library threads. -/
theorem c20a_no_fault_no_report (h : Reach (init hnd none closes inbound false) s) :
    s.ioRep = [] ∧ s.exited = false := by
  have i := inv_reach h
  have hnil : s.ioRep = [] := List.eq_nil_iff_forall_not_mem.2 fun rep hm => by
    cases hw : rep.who with
    | reader =>
      -- a reader's report records a failed peer, every record carries the run's `peerFault`, and that is `false` here
      have h1 : rep.peerFault = true := (i.c.rrep rep hm hw).2.2
      rw [i.c.prep rep hm, i.c.cP] at h1
      cases h1
    | writer => exact absurd i.c.cF (i.c.wrep rep hm hw).2
  exact ⟨hnil, by have := i.c.exit; simp_all⟩

/-- The writer has ended before `close()` closes the socket: a write failure is never self-inflicted. -/
theorem c20a_writer_never_writes_closed (h : Reach (init hnd failAt closes inbound peerFault) s) :
    (s.sockClosed = true → s.w = .done) ∧ (∀ rep ∈ s.ioRep, rep.who = .writer → rep.sockClosed = false ∧ failAt ≠ none) := by
  have i := inv_reach h
  refine ⟨fun hc => i.a.wdone (by have := i.a.sock.1 hc; omega), fun rep hm hw => ?_⟩
  have h1 := i.c.wrep rep hm hw
  exact ⟨h1.1, i.c.cF ▸ h1.2⟩

/-- Each thread reports at most once. -/
theorem c20a_report_once (h : Reach (init hnd failAt closes inbound peerFault) s) :
    (s.ioRep.filter (fun r => r.who = .reader)).length ≤ 1 ∧ (s.ioRep.filter (fun r => r.who = .writer)).length ≤ 1 :=
  ⟨(inv_reach h).c.rcnt, (inv_reach h).c.wcnt⟩

/-- The default reaction (process exit) happens iff something was reported and no handler is installed or it returned True. -/
theorem c20a_exit_iff (h : Reach (init hnd failAt closes inbound peerFault) s) :
    s.exited = true ↔ (s.ioRep ≠ [] ∧ hnd ≠ .no) := by
  have i := inv_reach h
  have h1 := i.c.exit
  rw [i.c.cH] at h1
  exact h1

/-- **After the first `close()` has returned**: the stop flag is set, the writer has ended, the pool refuses new tasks and
    every accepted task has finished, the socket is closed. -/
theorem c20a_closed (h : Reach (init hnd failAt closes inbound peerFault) s) (hc : 6 ≤ s.app) :
    s.stop = true ∧ s.w = .done ∧ s.poolShut = true ∧ s.tasks = 0 ∧ s.fin = s.acc ∧ s.sockClosed = true := by
  have i := inv_reach h
  have h1 := i.a.tasks0 (by omega)
  have h2 := i.a.acc
  exact ⟨i.a.stop (by omega), i.a.wdone (by omega), i.a.shut (by omega), h1, by omega, i.a.sock.2 hc⟩

/-- every accepted task is either finished or still counted: none is dropped, at any time. -/
theorem c20a_tasks_accounted (h : Reach (init hnd failAt closes inbound peerFault) s) : s.acc = s.fin + s.tasks :=
  (inv_reach h).a.acc

/-- **close() may be called again.** Once one `close()` has returned, every step of a further call is enabled at once (it
    waits for nothing) and changes nothing but the queue, which receives one more stop pill nobody reads. -/
theorem c20a_again (h : Reach (init hnd failAt closes inbound peerFault) s) (hc : 6 ≤ s.app) (hm : s.app < 6 * s.closes)
    (hx : s.exited = false) :
    ∃ s', step s .app = some s' ∧ s'.app = s.app + 1 ∧ s'.stop = s.stop ∧ s'.w = s.w ∧ s'.wrote = s.wrote ∧ s'.r = s.r ∧
      s'.sockClosed = s.sockClosed ∧ s'.poolShut = s.poolShut ∧ s'.tasks = s.tasks ∧ s'.fin = s.fin ∧
      s'.ioRep = s.ioRep ∧ s'.excRep = s.excRep ∧ s'.exited = s.exited ∧
      (s'.q = s.q ∨ s'.q = s.q ++ [.pill]) := by
  have i := inv_reach h
  obtain ⟨s', st⟩ := app_enabled hm (fun _ => i.a.wdone (by omega)) (fun _ => i.a.tasks0 (by omega))
  refine ⟨s', st.sound hx, ?_⟩
  have h1 := i.a.stop (by omega)
  have h3 := i.a.shut (by omega)
  have h5 := i.a.sock.2 hc
  cases st <;> simp only [h1, h3, h5, true_or, or_true, and_self]

/-- FIFO, no loss, no duplication under a concurrent close: what was written, the line in hand and the queue are the log
    of everything enqueued; a writer that ended consumed exactly one more message — the stop pill, or the line whose write
    failed (and then it reported). -/
theorem c20a_fifo (h : Reach (init hnd failAt closes inbound peerFault) s) :
    match s.w with
    | .get => s.wrote.map Msg.line ++ s.q = s.enq
    | .send n => s.wrote.map Msg.line ++ Msg.line n :: s.q = s.enq
    | .done => s.wrote.map Msg.line ++ Msg.pill :: s.q = s.enq ∨
        ((∃ n, s.wrote.map Msg.line ++ Msg.line n :: s.q = s.enq) ∧ ∃ rep ∈ s.ioRep, rep.who = .writer) :=
  (inv_reach h).fifo

/-- The writer stops only behind everything enqueued before `close()`'s pill: if no write failed, every line enqueued
    before the first stop pill has been written, in order. -/
theorem c20a_flushed (h : Reach (init hnd none closes inbound peerFault) s) (hw : s.w = .done) :
    s.wrote.map Msg.line = s.enq.takeWhile (fun m => m != Msg.pill) := by
  have i := inv_reach h
  have hf := i.fifo
  unfold Fifo at hf
  rw [hw] at hf
  rcases hf with hf | ⟨_, rep, hm, hwho⟩
  · rw [← hf]; simp
  · exact absurd i.c.cF (i.c.wrep rep hm hwho).2

/-- `close()` waits only for library work that can proceed: when its next step is not enabled it is the `join` with the
    writer able to step, or the pool shutdown with an unfinished task. -/
theorem c20a_app_progress (h : Reach (init hnd failAt closes inbound peerFault) s) (hx : s.exited = false)
    (hm : s.app < 6 * s.closes) (hn : step s .app = none) :
    (s.app % 6 = 2 ∧ ∃ s', step s .wr = some s') ∨ (s.app % 6 = 4 ∧ ∃ s', step s .tfin = some s') := by
  have i := inv_reach h
  by_cases h2 : s.app % 6 = 2 ∧ s.w ≠ .done
  · obtain ⟨s', st⟩ := wr_enabled h2.2 fun _ hq => by have := i.a.pill (by omega) h2.2; simp [hq] at this
    exact .inl ⟨h2.1, s', st.sound hx⟩
  by_cases h4 : s.app % 6 = 4 ∧ s.tasks ≠ 0
  · exact .inr ⟨h4.1, _, (Step.tfin (by omega)).sound hx⟩
  · obtain ⟨s', st⟩ := app_enabled hm (by grind) (by grind)
    rw [st.sound hx] at hn
    cases hn

/-- Once `close()` has closed the socket the reader ends within a bounded number of its own steps, each enabled. -/
theorem c20a_reader_ends (h : Reach (init hnd failAt closes inbound peerFault) s) (hc : s.sockClosed = true)
    (hx : s.exited = false) (hr : s.r ≠ .done) :
    ∃ s', step s .rd = some s' ∧ rmeasure s'.r < rmeasure s.r ∧ s'.ioRep = s.ioRep := by
  have i := inv_reach h
  have h6 := i.a.sock.1 hc
  have h1 := i.a.stop (by omega)
  have h3 := i.a.shut (by omega)
  match hr' : s.r with
  | .done => exact absurd hr' hr
  | .test => exact ⟨_, (Step.testStop hr' h1).sound hx, by simp [rmeasure], rfl⟩
  | .recv => exact ⟨_, (Step.recvClosed hr' hc).sound hx, by simp [recvFail, h1, rmeasure], by simp [recvFail, h1]⟩
  | .exc => exact ⟨_, (Step.excRet hr').sound hx, by simp [rmeasure], rfl⟩
  | .proc [] => exact ⟨_, (Step.procNil hr').sound hx, by simp [rmeasure], rfl⟩
  | .proc (.init :: rs) =>
    exact ⟨_, (Step.procInit rs hr').sound hx, by cases rs <;> simp [nextPc, rmeasure], rfl⟩
  | .proc (.task :: rs) => exact ⟨_, (Step.procExc rs hr' h3).sound hx, by simp [rmeasure], rfl⟩

/-- a request dispatched after `shutdown()` is the only way the exception handler is involved, and it ends the reader. -/
theorem c20a_exc_only_after_shutdown (h : Reach (init hnd failAt closes inbound peerFault) s) :
    (s.excRep ≤ 1) ∧ (0 < s.excRep → s.poolShut = true ∧ (s.r = .exc ∨ s.r = .done)) :=
  ⟨(inv_reach h).c.exc1, (inv_reach h).c.exc⟩

/-- **Nothing enqueued behind a stop pill is ever written**: at every moment what has been written is a prefix of what was
    enqueued before the first `close()` put its pill — the writer never overtakes the pill, whatever tasks and adapter threads
    go on enqueueing afterwards, and whether or not a write fails. -/
theorem c20a_nothing_after_pill (h : Reach (init hnd failAt closes inbound peerFault) s) :
    s.wrote.map Msg.line <+: s.enq.takeWhile (fun m => m != Msg.pill) := by
  -- whatever the writer is doing, the log is the lines written followed by something
  obtain ⟨t, e⟩ : ∃ t, s.wrote.map Msg.line ++ t = s.enq := by
    have hf := (inv_reach h).fifo
    unfold Fifo at hf
    split at hf
    case' h_3 => rcases hf with hf | ⟨⟨n, hf⟩, -⟩
    all_goals exact ⟨_, hf⟩
  rw [← e, List.takeWhile_append_of_pos (by simp)]
  exact List.prefix_append _ _

-- non-vacuity (tests, labelled as such): the reader blocked in recv while the application closes twice; nothing reported
example : (run (init .absent none 2 [[.init, .task]] false)
    [.rd, .rd, .rd, .rd, .wr, .wr, .rd, .app, .app, .wr, .wr, .tenq, .tfin, .wr, .app, .app, .app, .app, .rd,
     .app, .app, .app, .app, .app, .app]).map (fun s => (s.app, s.r, s.w, s.ioRep, s.exited, s.sockClosed, s.wrote, s.fin))
    = some (12, .done, .done, [], false, true, [0, 1], 1) := by rfl
-- a peer failure before the close is reported (handler returns False: no exit), the later close stays silent
example : (run (init .no none 1 [] true) [.rd, .rd, .app, .app, .wr, .wr, .wr, .app, .app, .app, .app]).map
    (fun s => (s.ioRep, s.exited, s.sockClosed)) = some ([⟨.reader, false, false, true⟩], false, true) := by rfl
-- a request dispatched after shutdown: exception report, reader ends
example : (run (init .yes none 1 [[.task]] false) [.rd, .app, .app, .wr, .wr, .wr, .app, .app, .rd, .rd, .rd]).map
    (fun s => (s.excRep, s.r, s.ioRep)) = some (1, .done, []) := by rfl

end Ari.AppClose
