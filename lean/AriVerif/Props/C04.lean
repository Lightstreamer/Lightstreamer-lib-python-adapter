import AriVerif.Conc.PoolLemmas
/-!
# C04 — every Metadata request is answered once and dispatched once

`Conc.Pool`: the pool tasks created for decoded Metadata requests.  `PReach n s` quantifies over every
sequence of actions: every interleaving of submissions (the reader), task starts (any pool size `n`),
adapter call begins / ends with every outcome per call, and reply enqueues.  Which adapter methods a task
calls, with which arguments, in which order, and which reply results, is `metaExec` (Meta.lean), tied to the
real `_on_*` closures by the `metadata-closures` differential; the pool, the threads and the once-ness are
tied by the Metadata co-simulation.
-/
namespace Ari.Conc

theorem PReach.taskOK {n : Nat} {s : PState} (h : PReach n s) : ∀ t ∈ s.tasks, TaskOK t := fun t ht =>
  have ⟨k, hk⟩ := List.mem_iff_getElem?.mp ht
  h.inv.ok k t hk

/-- **C04 (exactly one outcome per request, never both, never twice).** In every reachable state every task
    has produced nothing yet, or — exactly when it is finished — exactly one of {one reply, one
    exception-handler notification}. -/
theorem c04_once (n : Nat) (s : PState) (h : PReach n s) :
    ∀ t ∈ s.tasks, (t.pc.isDone = false → t.replied = 0 ∧ t.notified = 0) ∧
                   (t.pc.isDone = true → t.replied + t.notified = 1) := fun t ht =>
  ⟨(h.taskOK t ht).notDone, (h.taskOK t ht).done⟩

/-- **C04 (the reply is the closure's result for this request).** The line a task is about to enqueue is its
    own request id followed by the result of its closure on the outcomes its own adapter calls returned. -/
theorem c04_reply_is_result (n : Nat) (s : PState) (h : PReach n s) :
    ∀ t ∈ s.tasks, ∀ line, t.pc = .put line →
      ∃ body, taskNext t = .inr (.reply body) ∧ line = t.rid ++ "|" ++ body := fun t ht =>
  (h.taskOK t ht).put

/-- **C04 (the handler is notified only for a value of an unsupported type).** A task ends with a handler
    notification only when its closure, run on the outcomes received, does not produce a reply line. -/
theorem c04_notified_only_without_reply (s s' : PState) (k : Nat) (t : PTask) (effs : List PEff)
    (h : advance s k t = (s', effs)) (hn : PEff.handlerExc ∈ effs) :
    ∀ body, taskNext t ≠ .inr (.reply body) := by
  rw [advance_eq] at h; cases h
  rcases advEff_cases t with e | ⟨-, hne⟩
  · rw [e] at hn; cases hn
  · exact hne

/-- **C04 (adapter calls are the closure's).** The call a task is about to make / is making is the next call
    of `metaExec` given the outcomes received so far. -/
theorem c04_call_is_next (n : Nat) (s : PState) (h : PReach n s) :
    ∀ t ∈ s.tasks, ∀ c, (t.pc = .callBegin c → taskNext t = .inl c) ∧
      (t.pc = .inCall c → taskNext t = .inl c) := fun t ht c =>
  ⟨(h.taskOK t ht).callBegin c, (h.taskOK t ht).inCall c⟩

/-- **C04 (isolation).** A step of one task leaves every other task untouched: replies never cross. -/
theorem c04_isolation (s s' : PState) (a : PAct) (effs : List PEff) (k j : Nat) (h : pstep s a = some (s', effs))
    (ha : a = .start k ∨ a = .callBegin k ∨ (∃ o, a = .callEnd k o) ∨ a = .put k)
    (hj : j ≠ k) : s'.tasks[j]? = s.tasks[j]? := by
  rcases ha with rfl | rfl | ⟨o, rfl⟩ | rfl <;> cases PStep.of_pstep h <;>
    exact List.getElem?_set_ne (fun e => hj e.symm)

/-- **C04 (every finished task's reply is in the queue exactly when it replied).** The outbound sequence
    has as many lines as tasks that replied. -/
theorem c04_out_count (n : Nat) (s : PState) (h : PReach n s) :
    s.out.length = (s.tasks.map (·.replied)).sum := h.inv.out

/-- no deadlock inside the pool: an unfinished started task always has an enabled step of its own, except
    while it is inside an adapter call (the adapter decides when it returns). -/
theorem c04_progress (s : PState) (k : Nat) (t : PTask) (ht : s.tasks[k]? = some t) :
    (∀ c, t.pc = .callBegin c → (pstep s (.callBegin k)).isSome) ∧
    (∀ l, t.pc = .put l → (pstep s (.put k)).isSome) ∧
    (∀ c o, t.pc = .inCall c → (pstep s (.callEnd k o)).isSome) :=
  ⟨fun _ hp => (PStep.callBegin ht hp).isSome, fun _ hp => (PStep.put ht hp).isSome,
   fun _ o hp => (PStep.callEnd o ht hp).isSome⟩

end Ari.Conc
