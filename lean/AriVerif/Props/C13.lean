import AriVerif.Lemmas.Sender
/-!
# C13 — keepalive liveness: the connection is never silent longer than the interval (virtual time)

`senderRun tie k0 events horizon` is the list of lines the writer thread writes, with time stamps, for a
time-ordered history of submissions / interval changes / pills, up to `horizon` (model of
`_Sender._do_run`, tied to the real thread by the virtual-time co-simulation of harness/s_sender.py).  `tie`
decides the one genuinely racy case: a submission at exactly the instant a wait expires.  Intervals and
times are in ticks; interval 0 = keepalives disabled.  Every record carries the interval `nextK` with which
the wait *after* it begins (the value of `_keepalive` at that moment).
-/
namespace Ari

def Consecutive (l : List Written) (a b : Written) : Prop := ∃ pre post, l = pre ++ a :: b :: post

/-- **C13 (a KEEPALIVE only after a full interval of silence).** A KEEPALIVE written because a wait expired
    is written exactly `interval` after that wait began, the interval is positive, and the wait began at the
    previous write (or at time 0 if nothing was written before). -/
theorem c13_full_silence (tie : Bool) (k0 : Nat) (evs : List (Nat × SAct)) (hz : Nat) (h : Ordered 0 evs hz) :
    let out := senderRun tie k0 evs hz
    (∀ w ∈ out, ∀ ws d, w.cause = .timeout ws d → w.time = ws + d ∧ 0 < d ∧ w.line = "KEEPALIVE") ∧
    (∀ a b, Consecutive out a b → ∀ ws d, b.cause = .timeout ws d → ws = a.time ∧ d = a.nextK) ∧
    (∀ b post, out = b :: post → ∀ ws d, b.cause = .timeout ws d → ws = 0 ∧ d = k0) := by
  intro out
  have hc : Chain AfterWait 0 k0 out := (senderRun_spec tie k0 evs hz h).1
  refine ⟨?_, ?_, ?_⟩
  · intro w hw ws d hcause
    obtain ⟨ws', wk', hp⟩ := chain_mem _ _ _ hc w hw
    exact (hp.timeout ws d hcause).2.2
  · intro a b hab ws d hcause
    obtain ⟨h1, h2, _⟩ := (chain_consec hc hab).timeout ws d hcause
    exact ⟨h1, h2⟩
  · intro b post e ws d hcause
    rw [e] at hc
    obtain ⟨h1, h2, _⟩ := hc.1.timeout ws d hcause
    exact ⟨h1, h2⟩

/-- **C13 (never silent longer than the interval).** After every write that is followed by a wait with a
    positive interval, the next write comes at most that interval later; and the run does not end in a
    silence longer than the interval. -/
theorem c13_gap (tie : Bool) (k0 : Nat) (evs : List (Nat × SAct)) (hz : Nat) (h : Ordered 0 evs hz)
    (hns : ∀ e ∈ evs, e.2 ≠ .stop) :
    let out := senderRun tie k0 evs hz
    (∀ a b, Consecutive out a b → 0 < a.nextK → b.time ≤ a.time + a.nextK) ∧
    (∀ pre a, out = pre ++ [a] → 0 < a.nextK → hz < a.time + a.nextK) ∧
    (∀ b post, out = b :: post → 0 < k0 → b.time ≤ k0) ∧
    (out = [] → 0 < k0 → hz < k0) := by
  intro out
  obtain ⟨hc, hend⟩ : Chain AfterWait 0 k0 out ∧ (_ → lastK k0 out = 0 ∨ hz < lastT 0 out + lastK k0 out) :=
    senderRun_spec tie k0 evs hz h
  -- without a stop pill the writer is alive at the horizon
  have hend := hend (runEvents_msgs tie _ evs rfl hns).2
  refine ⟨?_, ?_, ?_, ?_⟩
  · intro a b hab hpos
    exact (chain_consec hc hab).gap hpos
  · intro pre a e hpos
    rw [e, lastT_append, lastK_append] at hend
    simp only [lastT, lastK] at hend
    omega
  · intro b post e hpos
    rw [e] at hc
    have := hc.1.gap hpos
    omega
  · intro e hpos
    rw [e] at hend
    simp only [lastT, lastK] at hend
    omega

/-- **C13 (disabled).** With keepalives disabled throughout, no KEEPALIVE is ever written because of a
    timeout. -/
theorem c13_disabled (tie : Bool) (evs : List (Nat × SAct)) (hz : Nat)
    (hk : ∀ e ∈ evs, ∀ k, e.2 = .setK k → k = 0) :
    ∀ w ∈ senderRun tie 0 evs hz, ∀ ws d, w.cause ≠ .timeout ws d := by
  obtain ⟨_, h2, h3⟩ := runEvents_disabled tie { k := 0, ws := 0, wk := 0 } evs rfl rfl hk
  intro w hw
  rw [senderRun_eq, fireUntil_idle _ _ _ _ (Or.inr h2), List.append_nil] at hw
  exact h3 w hw

/-- **C13 (transparent).** The lines that are not keepalives are exactly the submitted messages, in
    submission order, each complete and written at its submission time (no stop pill in the history). -/
theorem c13_transparent (tie : Bool) (k0 : Nat) (evs : List (Nat × SAct)) (hz : Nat)
    (hns : ∀ e ∈ evs, e.2 ≠ .stop) :
    ((senderRun tie k0 evs hz).filter (fun w => w.cause == .msg)).map (fun w => (w.time, w.line)) =
      evs.filterMap (fun e => match e.2 with | .put m => some (e.1, m) | _ => none) := by
  rw [senderRun_eq, List.filter_append, fireUntil_filter_msg, List.append_nil]
  exact (runEvents_msgs tie { k := k0, ws := 0, wk := k0 } evs rfl hns).1

/-- times never go backwards. -/
theorem c13_monotone (tie : Bool) (k0 : Nat) (evs : List (Nat × SAct)) (hz : Nat) (h : Ordered 0 evs hz) :
    ∀ a b, Consecutive (senderRun tie k0 evs hz) a b → a.time ≤ b.time := by
  intro a b hab
  have hc := (senderRun_spec tie k0 evs hz h).1
  exact (chain_consec hc hab).mono

-- concrete instances (tests, labelled as such)
example : (senderRun false 1000 [(500, .put "a"), (1500, .put "b")] 4000).map (fun w => (w.time, w.line)) =
    [(500, "a"), (1500, "b"), (2500, "KEEPALIVE"), (3500, "KEEPALIVE")] := by decide +kernel
example : (senderRun true 1000 [(1000, .put "a")] 1000).map (fun w => (w.time, w.line)) =
    [(1000, "KEEPALIVE"), (1000, "a")] := by decide +kernel
example : (senderRun false 0 [(300, .setK 1000), (300, .put "init")] 2300).map (fun w => (w.time, w.line)) =
    [(300, "init"), (1300, "KEEPALIVE"), (2300, "KEEPALIVE")] := by decide +kernel

end Ari
