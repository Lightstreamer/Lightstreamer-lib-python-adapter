import AriVerif.Conc.DataFifo
/-
  Conc/DataGate.lean — C10 on the whole-Data-server model of the co-simulation: initialization gates everything, no
  subscription request has been handed to the subscription manager while the init request is still expected
  (`greach_init_gate`); and what Props/C10S.lean needs for "adapter calls are made by pool threads only".
-/
namespace Ari.Conc

theorem mem_liftEffs_adapter {y : String} {n : Nat} {e : List Eff} {m : AMethod} {y' : String}
    (h : GEff.adapterBegin m y' ∈ liftEffs y n e ∨ GEff.adapterEnd m y' ∈ liftEffs y n e) :
    Eff.adapterBegin m ∈ e ∨ Eff.adapterEnd m ∈ e := by
  induction e generalizing n with
  | nil => simp [liftEffs] at h
  | cons x e ih => cases x <;> simp only [liftEffs] at h ⊢ <;> grind

/-- every branch of `lineOps` that returns a request returns the flag `false`; the others keep the flag or clear it. -/
theorem lineOps_gate (s : DState) (l : String) :
    (s.initExpected = false → (lineOps s l).2 = false) ∧
    (∀ x t, ROp.req x t ∈ (lineOps s l).1 → (lineOps s l).2 = false) := by
  unfold lineOps
  split
  · exact ⟨id, fun x t h => by simp at h⟩
  · split
    · generalize decodeRequest _ _ = d
      split
      · simp only
        exact ⟨fun _ => trivial, fun _ _ _ => trivial⟩
      · simp only
        exact ⟨fun _ => trivial, fun _ _ _ => trivial⟩
    · split
      · exact ⟨id, fun x t h => by simp at h⟩
      · split
        · generalize decodeRequest _ _ = d
          split
          · simp only
            exact ⟨fun _ => trivial, fun _ _ _ => trivial⟩
          · simp only
            exact ⟨fun _ => trivial, fun _ _ _ => trivial⟩
        · exact ⟨id, fun x t h => by simp at h⟩

theorem lineF_fold (s : DState) (lines : List String) (acc : List ROp × Bool) :
    (acc.2 = false → (lines.foldl (lineF s) acc).2 = false) ∧
    (∀ x t, ROp.req x t ∈ (lines.foldl (lineF s) acc).1 →
      ROp.req x t ∈ acc.1 ∨ (lines.foldl (lineF s) acc).2 = false) := by
  induction lines generalizing acc with
  | nil => exact ⟨id, fun x t h => .inl h⟩
  | cons l lines ih =>
    rw [List.foldl_cons]
    obtain ⟨h1, h2⟩ := ih (lineF s acc l)
    -- reduce `(lineF s acc l).2` here: matched against `(lineOps _ l).2` by the unifier it unfolds `lineOps`
    unfold lineF at h1 h2
    dsimp only at h1 h2
    obtain ⟨g1, g2⟩ := lineOps_gate { s with initExpected := acc.2 } l
    refine ⟨fun h => h1 (g1 h), fun x t h => ?_⟩
    rcases h2 x t h with h | h
    · rcases List.mem_append.1 h with h | h
      · exact .inl h
      · exact .inr (h1 (g2 x t h))
    · exact .inr h

/-- **C10 on the Data server model.** In every reachable state, if a subscription request has been dispatched
    (a pool task exists, the reader is between its two lock sections, or a request is waiting in the reader's
    list), the init request has been received. -/
theorem greach_init_gate {n : Nat} {u p : Option String} {ioh : Option Bool} {s : DState} {log : List String}
    (h : GReachH n u p ioh s log) :
    (s.tasks ≠ [] ∨ s.rmid.isSome = true ∨ ∃ x t, ROp.req x t ∈ s.rq) → s.initExpected = false := by
  induction h with
  | init => simp
  | @step s s' log tid op x effs _ hg _ ih =>
    -- a pool thread that steps is a pool task
    have hT : ∀ {n : Nat} {t : String × Nat}, s.tasks[n - 1]? = some t → s.initExpected = false := fun ht =>
      ih (.inl fun h0 => by rw [h0] at ht; cases ht)
    -- a step that leaves the reader's variables alone and creates no task
    have keep : ∀ {s1 : DState}, s1.initExpected = s.initExpected → s1.tasks = s.tasks → s1.rmid = s.rmid →
        (∀ a ∈ s1.rq, a ∈ s.rq) →
        (s1.tasks ≠ [] ∨ s1.rmid.isSome = true ∨ ∃ x t, ROp.req x t ∈ s1.rq) → s1.initExpected = false := by
      intro s1 h1 h2 h3 h4 hpre
      rw [h1]
      apply ih
      rcases hpre with h | h | ⟨y, t, h⟩
      · exact .inl (h2 ▸ h)
      · exact .inr (.inl (h3 ▸ h))
      · exact .inr (.inr ⟨y, t, h4 _ h⟩)
    cases gstep_kind hg with
    | deliver | endOfInput | mStart | mPut | rStart | rFail | rJoin | wStart | wGet | wPill | wSend | wFail
    | failurePut | excFailurePut => exact keep rfl rfl rfl (fun _ h => h)
    | rPut _ _ hrq | rQuit _ _ hrq => exact keep rfl rfl rfl (fun _ h => by rw [hrq]; exact List.mem_cons_of_mem _ h)
    | rPoolWait => exact keep rfl rfl rfl (fun _ h => by cases h)
    | rRecv _ hmid _ _ =>
      obtain ⟨g1, g2⟩ := lineF_fold s (feed s.rbuf _).1 ([], s.initExpected)
      dsimp only
      rintro (h | h | ⟨y, t, h⟩)
      · exact g1 (ih (.inl h))
      · rw [hmid] at h; cases h
      · exact (g2 y t h).resolve_left (by simp)
    | rLock _ _ hrq _ => exact fun _ => ih (.inr (.inr ⟨_, _, by rw [hrq]; exact List.mem_cons_self⟩))
    | rAdd _ hmid _ => exact fun _ => ih (.inr (.inl (by rw [hmid]; rfl)))
    | tStart _ ht | tDec _ ht | task _ ht => exact fun _ => hT ht
    | lsnRead _ _ hi | lsnPut _ hi =>
      exact keep rfl (by simp [DState.lifted, isubs_eq_nil hi (by simp)]) rfl (fun _ h => h)

end Ari.Conc
