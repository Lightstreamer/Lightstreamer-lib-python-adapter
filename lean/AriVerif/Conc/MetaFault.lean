import AriVerif.Conc.MetaClose
/-
  Conc/MetaFault.lean — I/O failures on the whole-Metadata-server model: the peer closes or resets the connection at any
  point of the inbound stream (`recv` fails once the delivered bytes are consumed), or any write of the writer thread
  fails.  C20's failure clauses at thread level, for every schedule, pool size and adapter outcome.
-/
namespace Ari.Conc

/-- the report is exactly `on_ioexception`'s: the handler, if installed, is told once; the process exits iff no handler is
    installed or it returns a true value. -/
theorem ioEffects_spec (cfg : SrvCfg) :
    ioEffects cfg = (match cfg.ioHandler with
      | none => [MEff.exit]
      | some r => MEff.ioHandler :: (if r then [MEff.exit] else [])) := by
  simp only [ioEffects, onIoException]
  cases cfg.ioHandler with
  | none => rfl
  | some r => cases r <;> rfl

theorem not_mem_liftPEffs_io (b : Bool) (pe : List PEff) :
    MEff.ioHandler ∉ liftPEffs b pe ∧ MEff.exit ∉ liftPEffs b pe := by
  induction pe with
  | nil => simp [liftPEffs]
  | cons x e ih => cases x <;> cases b <;> simp [liftPEffs, ih]

theorem mstep_fault_cases {s s' : MState} {env : InitEnv} {tid : String} {op : MOp} {effs : List MEff}
    (h : mstep s env tid op = some (s', effs)) :
    (MEff.ioHandler ∉ effs ∧ MEff.exit ∉ effs) ∨
    (tid = "R" ∧ op = .recv ∧ s.rq = [] ∧ s.inbound = [] ∧ s.inEnd = true ∧
      s' = ioReport { s with rthr := 4 } ∧ effs = ioEffects s.cfg) ∨
    (tid = "W" ∧ op = .sendFail ∧ s' = ioReport { s with wsend := none, wthr := 4 } ∧ effs = ioEffects s.cfg) := by
  -- the reader's local actions report nothing
  have loc : ∀ {s0 : MState} {acts : List RAct} {p' : PState} {rq' : List RAct} {e : List MEff},
      RunsLocal s0 acts p' rq' e → MEff.ioHandler ∉ e ∧ MEff.exit ∉ e := fun h =>
    ⟨h.not_mem nofun nofun, h.not_mem nofun nofun⟩
  cases mstep_kind h with
  | rFail _ hrq hin he => exact .inr (.inl ⟨rfl, rfl, hrq, hin, he, rfl, rfl⟩)
  | wFail => exact .inr (.inr ⟨rfl, rfl, rfl, rfl⟩)
  | rRecv _ _ _ hrun => exact .inl (loc hrun)
  | rPut _ _ hrun => exact .inl (by simpa using loc hrun)
  | pool => exact .inl (not_mem_liftPEffs_io ..)
  | _ => exact .inl ⟨by simp, by simp⟩

/-- **only a failing read or a failing write is reported.** -/
theorem mstep_io_only_on_fault {s s' : MState} {env : InitEnv} {tid : String} {op : MOp} {effs : List MEff}
    (h : mstep s env tid op = some (s', effs)) (hio : MEff.ioHandler ∈ effs ∨ MEff.exit ∈ effs) :
    (tid = "R" ∧ op = .recv ∧ s.rq = [] ∧ s.inbound = [] ∧ s.inEnd = true) ∨ (tid = "W" ∧ op = .sendFail) := by
  rcases mstep_fault_cases h with ⟨h1, h2⟩ | ⟨h1, h2, h3, h4, h5, -⟩ | ⟨h1, h2, -⟩
  · exact (hio.elim h1 h2).elim
  · exact .inl ⟨h1, h2, h3, h4, h5⟩
  · exact .inr ⟨h1, h2⟩

/-- **a failing read**: reported exactly as `on_ioexception` prescribes, the reader ends, nothing else is touched. -/
theorem mstep_read_fault (s : MState) (env : InitEnv) (hr : s.rthr = 2) (hq : s.rq = []) (hi : s.inbound = [])
    (he : s.inEnd = true) (hx : s.exited = false) :
    ∃ s', mstep s env "R" .recv = some (s', ioEffects s.cfg) ∧ s'.rthr = 4 ∧
      s'.nio = s.nio + (if s.cfg.ioHandler.isSome then 1 else 0) ∧
      s'.exited = (match s.cfg.ioHandler with | none => true | some r => r) ∧
      s'.pool = s.pool ∧ s'.sendQ = s.sendQ ∧ s'.wthr = s.wthr ∧ s'.wsend = s.wsend ∧ s'.written = s.written :=
  ⟨_, (MStepKind.rFail (by omega) hq hi he).sound hx, rfl, rfl, rfl, rfl, rfl, rfl, rfl, rfl⟩

/-- **a failing write**: reported the same way, the message in hand is lost, the writer ends, nothing else is touched. -/
theorem mstep_write_fault (s : MState) (env : InitEnv) (m : String) (hw : s.wthr = 2) (hm : s.wsend = some m)
    (hx : s.exited = false) :
    ∃ s', mstep s env "W" .sendFail = some (s', ioEffects s.cfg) ∧ s'.wthr = 4 ∧ s'.wsend = none ∧
      s'.nio = s.nio + (if s.cfg.ioHandler.isSome then 1 else 0) ∧
      s'.exited = (match s.cfg.ioHandler with | none => true | some r => r) ∧
      s'.pool = s.pool ∧ s'.sendQ = s.sendQ ∧ s'.rthr = s.rthr ∧ s'.written = s.written :=
  ⟨_, (MStepKind.wFail (by omega) hm).sound hx, rfl, rfl, rfl, rfl, rfl, rfl, rfl, rfl⟩

/-- after the default reaction (process exit) nothing runs any more. -/
theorem mstep_exited (s : MState) (env : InitEnv) (tid : String) (op : MOp) (h : s.exited = true) :
    mstep s env tid op = none := by
  cases hg : mstep s env tid op with
  | none => rfl
  | some p => rw [mstep_not_exited hg] at h; cases h

/-- a thread that died on a failure takes no further step — hence reports at most once. -/
theorem mstep_dead_reader (s : MState) (env : InitEnv) (op : MOp) (h : s.rthr = 4) : mstep s env "R" op = none := by
  cases hg : mstep s env "R" op with
  | none => rfl
  | some p => have := (mstep_kind hg).reader_runs; omega

theorem mstep_dead_writer (s : MState) (env : InitEnv) (op : MOp) (h : s.wthr = 4) : mstep s env "W" op = none := by
  cases hg : mstep s env "W" op with
  | none => rfl
  | some p => have := (mstep_kind hg).writer_runs; omega

/-- **exactly one notification per failing thread, none without a failure** (ghost count), in every reachable state. -/
theorem mreach_nio {cfg : SrvCfg} {n : Nat} {s : MState} {log : List String} (h : MReach cfg n s log) :
    s.cfg = cfg ∧
    s.nio = (if cfg.ioHandler.isSome then (if s.rthr = 4 then 1 else 0) + (if s.wthr = 4 then 1 else 0) else 0) := by
  induction h with
  | init => exact ⟨rfl, by simp [MInit]⟩
  | @step s s' log env tid op effs hr hs ih =>
    obtain ⟨hcfg, hnio⟩ := ih
    -- `mPut` sets `rthr := 1` and `mStart` sets `wthr := 1`: the count stays right because neither thread had died before
    -- it was created
    have hR := (mreach_closeInv hr).rStarted
    have hW := (mreach_pending_lost hr).1
    cases mstep_kind hs with
    | mStart hm => exact ⟨hcfg, by dsimp only; have := hW hm; grind⟩
    | mPut | rStart | wStart | rPoolWait | wPill => exact ⟨hcfg, by dsimp only; grind⟩
    | rFail | wFail => exact ⟨hcfg, by dsimp only [ioReport]; rw [hcfg]; grind⟩
    | _ => exact ⟨hcfg, hnio⟩

/-- **the process exits only as the default reaction to a reported failure.** -/
theorem mreach_exited {cfg : SrvCfg} {n : Nat} {s : MState} {log : List String} (h : MReach cfg n s log)
    (hx : s.exited = true) : (s.rthr = 4 ∨ s.wthr = 4) ∧ (cfg.ioHandler = none ∨ cfg.ioHandler = some true) := by
  cases h with
  | init => simp [MInit] at hx
  | @step s _ log env tid op effs hr hs =>
    have hx0 := mstep_not_exited hs
    have hcfg := (mreach_nio hr).1
    cases mstep_kind hs with
    | rFail => exact ⟨.inl rfl, hcfg ▸ default_of_exits hx⟩
    | wFail => exact ⟨.inr rfl, hcfg ▸ default_of_exits hx⟩
    | _ => exact absurd (hx0.symm.trans hx) (by simp)

theorem mstep_join_writer_ended {s : MState} {env : InitEnv} {tid : String} (h : (mstep s env tid .join).isSome = true) :
    tid = "R" ∧ (s.wthr = 3 ∨ s.wthr = 4) := by
  obtain ⟨-, _, _, hk⟩ := mstep_isSome_iff.1 h
  cases hk with
  | rJoin _ _ _ hw => exact ⟨rfl, hw⟩
  | pool _ ha => cases ha

/-- a failure handled by the application (handler returns a false value) leaves the rest of the server running: the pool
    threads', the starting thread's, the environment's and the other I/O thread's steps are exactly as enabled as before —
    except the reader's `join()` of the writer, which a writer dead on a failed write lets through (see
    `mstep_fault_isolated_mono`: no step is ever disabled). -/
theorem mstep_fault_isolated {s s' : MState} {env : InitEnv} {tid : String} {op : MOp} {effs : List MEff}
    (h : mstep s env tid op = some (s', effs)) (hio : MEff.ioHandler ∈ effs) (hx : s'.exited = false)
    (tid' : String) (op' : MOp) (hne : tid' ≠ tid) (hj : op' ≠ .join) :
    (mstep s' env tid' op').isSome = (mstep s env tid' op').isSome := by
  have hx0 := mstep_not_exited h
  rcases mstep_fault_cases h with ⟨h1, -⟩ | ⟨rfl, -, -, -, -, rfl, -⟩ | ⟨rfl, -, rfl, -⟩
  · exact absurd hio h1
  · exact mstep_isSome_congr s 4 s.wthr s.wsend _ _ env tid' op' (hx.trans hx0.symm) (fun h => absurd h hne)
      (fun _ => rfl) (fun _ => ⟨rfl, rfl⟩)
  · exact mstep_isSome_congr s s.rthr 4 none _ _ env tid' op' (hx.trans hx0.symm) (fun _ => rfl) (fun h => absurd h hj)
      (fun h => absurd h hne)

/-- … and no step of another thread, `join()` included, is disabled by a handled failure. -/
theorem mstep_fault_isolated_mono {s s' : MState} {env : InitEnv} {tid : String} {op : MOp} {effs : List MEff}
    (h : mstep s env tid op = some (s', effs)) (hio : MEff.ioHandler ∈ effs) (hx : s'.exited = false)
    (tid' : String) (op' : MOp) (hne : tid' ≠ tid) (hen : (mstep s env tid' op').isSome = true) :
    (mstep s' env tid' op').isSome = true := by
  by_cases hj : op' = .join
  · -- `join()`, the reader's, was not enabled: the writer, which has just stepped, had not ended
    subst hj
    obtain ⟨rfl, h1⟩ := mstep_join_writer_ended hen
    rcases mstep_fault_cases h with ⟨h2, -⟩ | ⟨rfl, -⟩ | ⟨rfl, -⟩
    · exact absurd hio h2
    · exact absurd rfl hne
    · have h2 := (mstep_kind h).writer_runs
      omega
  · exact (mstep_fault_isolated h hio hx tid' op' hne hj).trans hen

/-- the exception is real: a writer holding a message while the reader is joining it (`close()` under way); before the
    failing write the reader's `join()` is not enabled, after it (handler installed, returns a false value) it is. -/
example :
    let cfg : SrvCfg := { kind := .metaK, excHandler := none, ioHandler := some false, keepAlive := some 0 }
    let s : MState :=
      { cfg := cfg, pool := { n := 1 }, rst := { keepAlive := (0, 0) }, rthr := 2, wthr := 2, mpc := 2, wsend := some "x",
        cpc := 1, rq := [RAct.poolShutdown, RAct.sockClose], sendQ := [none] }
    (mstep s {} "R" .join).isSome = false ∧
    ((mstep s {} "W" .sendFail).map fun r => (r.1.exited, r.2.length, (mstep r.1 {} "R" .join).isSome)) =
      some (false, 1, true) := by
  decide +kernel

end Ari.Conc
