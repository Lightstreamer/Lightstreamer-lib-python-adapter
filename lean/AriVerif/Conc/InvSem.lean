import AriVerif.Conc.InvView
/-
  Conc/InvSem.lean — preservation of `Sem` by the transitions of the view: each lemma re-proves exactly the
  clauses that read a field the transition changes (`{ h with … }`).
-/
namespace Ari.Conc

theorem View.held_eq {v : View} {p : Pc} {t : Task} (hp : v.pc = some p) (hh : p.held = some t) : v.held = [t] := by
  simp [View.held, hp, hh]

theorem Sem.seq_held {v : View} (h : Sem v) {p : Pc} {t : Task} (hp : v.pc = some p) (hh : p.held = some t) :
    v.arr = v.fin ++ [t] ++ v.q ++ v.rh := View.held_eq hp hh ▸ h.seq

theorem Sem.execd_held {v : View} (h : Sem v) {p : Pc} {t : Task} (hp : v.pc = some p) (hh : p.held = some t) :
    ∀ r, r ∈ v.execd → hasId v.fin r ∨ hasId [t] r := View.held_eq hp hh ▸ h.execdHeld

theorem Sem.fin_fresh {v : View} (h : Sem v) (hwf : WF v.arr) {p : Pc} {t : Task} (hp : v.pc = some p)
    (hh : p.held = some t) : ¬ hasId v.fin t.id :=
  not_hasId_of_nodup (l' := t :: (v.q ++ v.rh)) (by simpa [h.seq, View.held_eq hp hh] using hwf.1)
    (List.mem_cons_self ..)

/-- `lateFin`, `lastInvId` and `replOnly` without their alternative at the held task: so they hold while the looping
    instance (if any) is not in the reply phase (`afterCall`, `Sem.finOnly`), and in every phase once the held task
    is counted as finished (`Sem.finOnly_done`). -/
structure FinOnly (v : View) : Prop where
  late : ∀ t, t ∈ v.late → t ∈ v.fin
  lastInv : ∀ m r b, v.lastInv = some (m, r, b) → hasId v.fin r
  repl : ∀ r, r ∈ v.repl → hasId v.fin r

theorem FinOnly.lateFin {v : View} (h : FinOnly v) {Q : Task → Prop} : ∀ p, p ∈ v.late → p ∈ v.fin ∨ Q p :=
  fun p hl => .inl (h.late p hl)
theorem FinOnly.lastInvId {v : View} (h : FinOnly v) {Q : String → Prop} :
    ∀ m r b, v.lastInv = some (m, r, b) → hasId v.fin r ∨ Q r := fun m r b hl => .inl (h.lastInv m r b hl)
theorem FinOnly.replOnly {v : View} (h : FinOnly v) {Q : String → Prop} : ∀ r, r ∈ v.repl → hasId v.fin r ∨ Q r :=
  fun r hr => .inl (h.repl r hr)

theorem Sem.finOnly {v : View} (h : Sem v) {o : Option Pc} (hp : v.pc = o) (ha : o.any Pc.afterCall = false) :
    FinOnly v := by
  subst hp
  refine ⟨fun t hl => (h.lateFin t hl).elim id fun ⟨l, e⟩ => ?_,
    fun m r b hl => (h.lastInvId m r b hl).elim id fun ⟨_, e, a, _⟩ => ?_,
    fun r hr => (h.replOnly r hr).elim id fun ⟨_, e, _⟩ => ?_⟩ <;>
  · rw [e] at ha; first | cases ha | cases a.symm.trans ha

theorem Sem.fwdBetween {v : View} (h : Sem v) {o : Option Pc} (hp : v.pc = o) {r : String} (hr : v.fwd = some r)
    (hs : ∀ t, o ≠ some (.inCall .sub t) := by nofun) (hput : ∀ t l, o ≠ some (.put t l .atLoop) := by nofun)
    (hu : ∀ t, o ≠ some (.callBegin .usb t) := by nofun) :
    View.between { v with pc := o } = true ∧ v.ok = true ∧
      ∃ t, v.fin.getLast? = some t ∧ t.isSub = true ∧ t ∉ v.late ∧ t.id = r := by
  subst hp
  rcases h.fwdShape r hr with ⟨t, e, _⟩ | ⟨t, l, e, _⟩ | x | ⟨t, e, _⟩
  · exact absurd e (hs t)
  · exact absurd e (hput t l)
  · exact x
  · exact absurd e (hu t)

/-- the looping instance goes from `o₀` to `o` (`none`: it is not in the view) without changing the held task or the
    phase (between tasks, or `published`), and no clause speaks of either end.  The side conditions are computations
    on the two program counters. -/
theorem Sem.move {v : View} (h : Sem v) {o₀ o : Option Pc} (hp : v.pc = o₀)
    (hh : View.held { v with pc := o } = View.held { v with pc := o₀ } := by rfl)
    (hb : View.between { v with pc := o } = View.between { v with pc := o₀ } := by rfl)
    (ha : o₀.any Pc.afterCall = false := by rfl) (ha' : o.any Pc.afterCall = false := by rfl)
    (hpub : ∀ t, o.any (Pc.published t) = true → o₀.any (Pc.published t) = true := by exact fun _ e => e)
    (hu' : ∀ t, o ≠ some (.callBegin .usb t) := by nofun)
    (hu : ∀ t, o₀ ≠ some (.callBegin .usb t) := by nofun) (hs : ∀ t, o₀ ≠ some (.inCall .sub t) := by nofun) :
    Sem { v with pc := o } := by
  subst hp
  have hF := h.finOnly rfl ha
  have put : ∀ {t l}, o ≠ some (.put t l .atLoop) := fun e => by cases e; cases ha'
  exact
  { h with
    seq := hh ▸ h.seq
    lateFin := hF.lateFin
    outBetween := hb ▸ h.outBetween
    outReply := fun _ _ e => absurd e put
    lastInvId := hF.lastInvId
    usbPaired := fun t e => absurd e (hu' t)
    codeAfterUsb := hb ▸ h.codeAfterUsb
    codeExec := hb ▸ h.codeExec
    codePublished := fun _ e t ht => by
      cases e
      obtain ⟨p, e, x⟩ := (Option.any_eq_true _ _).mp (hpub t ht)
      exact h.codePublished p e t x
    codeReply := fun _ _ e => absurd e put
    codeUsb := fun t e => absurd e (hu' t)
    fwdShape := fun r hr =>
      .inr (.inr (.inl (hb ▸ h.fwdBetween rfl hr hs (fun _ _ e => by rw [e] at ha; cases ha) hu)))
    replOnly := hF.replOnly
    execdHeld := hh ▸ h.execdHeld
    replClear := fun t e => by cases e; cases ha' }

theorem Sem.finOnly_done {v : View} (h : Sem v) {p : Pc} {t : Task} (hp : v.pc = some p) (hh : p.held = some t) :
    FinOnly { v with fin := v.fin ++ [t] } ∧ ∀ r, r ∈ v.execd → hasId (v.fin ++ [t]) r := by
  refine ⟨⟨fun x hl => (h.lateFin x hl).elim (List.mem_append_left _) fun ⟨l, e⟩ => ?late,
    fun m r b hl => hasId_append.mpr <| (h.lastInvId m r b hl).imp id fun ⟨_, e, _, t', e', hid⟩ => ?li,
    fun r hr => hasId_append.mpr <| (h.replOnly r hr).imp id fun ⟨t', e, hid⟩ => ?repl⟩,
    fun r hr => hasId_append.mpr (h.execd_held hp hh r hr)⟩
  case late => cases hp.symm.trans e; cases hh; simp
  case li => cases hp.symm.trans e; cases hh.symm.trans e'; exact hasId_singleton.mpr hid
  case repl => cases hp.symm.trans e; cases hh; exact hasId_singleton.mpr hid

theorem Sem.replFresh {v : View} (h : Sem v) (hwf : WF v.arr) {p : Pc} {t : Task} (hp : v.pc = some p)
    (hh : p.held = some t) (hc : ∀ t', p ≠ .clearCode t') : (v.repl ++ [t.id]).Nodup :=
  List.nodup_append.mpr ⟨h.replNodup, by simp, fun a ha b hb e => by
    cases List.mem_singleton.mp hb
    exact (h.replOnly _ (e ▸ ha)).elim (h.fin_fresh hwf hp hh) fun ⟨t', e', _⟩ => by
      cases hp.symm.trans e'; exact hc t' rfl⟩

theorem Sem.put_loop {v : View} (h : Sem v) {t : Task} {line : String} (hp : v.pc = some (.put t line .atLoop))
    (ht : t.isSub = true) (ha : v.act = true) (hwf : WF v.arr) :
    Sem { v with pc := some .atLoop, fin := v.fin ++ [t], repl := v.repl ++ [t.id] } := by
  obtain ⟨hF, hexecd⟩ := h.finOnly_done hp rfl
  exact
  { h with
    seq := by simpa [View.held, hp, Pc.held] using h.seq
    lateFin := hF.lateFin
    noneLastUsb := fun e => by rw [ha] at e; cases e
    outBetween := fun _ => forall_getLast_concat fun _ => h.outReply t line hp ht
    outReply := nofun
    lastInvId := hF.lastInvId
    usbPaired := nofun
    codeAfterUsb := fun _ => forall_getLast_concat fun hs => nomatch ht.symm.trans hs
    codeExec := fun _ => forall_getLast_concat fun _ => h.codeReply t line hp ht
    codePublished := by rintro _ ⟨⟩ _ ⟨⟩
    codeReply := nofun
    codeUsb := nofun
    fwdShape := fun r hr => by
      rcases hp ▸ h.fwdShape r hr with ⟨_, ⟨⟩, _⟩ | ⟨_, _, ⟨⟩, x⟩ | ⟨b, _⟩ | ⟨_, ⟨⟩, _⟩
      · exact .inr (.inr (.inl ⟨rfl, x.2.2.1, t, by simp, x.1, x.2.1, x.2.2.2⟩))
      · simp [View.between, hp, Pc.between] at b
    replNodup := h.replFresh hwf hp rfl nofun
    replFin := forall_mem_concat (fun t' hm hl => List.mem_append_left _ (h.replFin t' hm hl))
      fun _ => by simp
    replOnly := forall_mem_concat hF.replOnly
      (.inl (hasId_append.mpr (.inr (hasId_singleton.mpr rfl))))
    execdHeld := fun r hr => .inl (hexecd r hr)
    replClear := nofun }

theorem Sem.callBegin {v : View} (h : Sem v) {m : AMethod} {t : Task} (hp : v.pc = some (.callBegin m t)) :
    Sem { v with pc := some (.inCall m t),
                 fwd := match (generalizing := false) m with | .sub => some t.id | .usb => none | .snap => v.fwd } :=
  have hF := h.finOnly hp rfl
  { h with
    seq := h.seq_held hp rfl
    lateFin := hF.lateFin
    outBetween := nofun
    outReply := nofun
    lastInvId := hF.lastInvId
    usbPaired := nofun
    codeAfterUsb := nofun
    codeExec := nofun
    codePublished := fun p e t' ht => by
      cases e; exact h.codePublished _ hp t' (by cases m <;> first | exact ht | cases ht)
    codeReply := nofun
    codeUsb := nofun
    fwdShape := fun r hr => by
      cases m with
      | sub => cases hr; exact .inl ⟨t, rfl, rfl⟩
      | usb => cases hr
      | snap => exact nomatch (h.fwdBetween hp hr).1
    replOnly := hF.replOnly
    execdHeld := h.execd_held hp rfl
    replClear := nofun }

structure PopV (v : View) (t : Task) (rest : List Task) : Prop extends FinOnly v where
  arr : v.arr = v.fin ++ t :: (rest ++ v.rh)
  fresh : ¬ hasId v.fin t.id
  prev : ∀ p, v.fin.getLast? = some p → p.isSub = !t.isSub
  lastInv_ne : ∀ m b, v.lastInv ≠ some (m, t.id, b)
  execd : ∀ r, r ∈ v.execd → hasId v.fin r
  notLast : rest ≠ [] → v.arr.getLast? ≠ some t

theorem Sem.popV {v : View} (h : Sem v) (hwf : WF v.arr) (hp : v.pc = some .atLoop) {t : Task} {rest : List Task}
    (hq : v.q = t :: rest) : PopV v t rest := by
  have harr : v.arr = v.fin ++ t :: (rest ++ v.rh) := by rw [h.seq, hq]; simp [View.held, hp, Pc.held]
  have hnid : ¬ hasId v.fin t.id := not_hasId_of_nodup (harr ▸ hwf.1) (List.mem_cons_self ..)
  have hF := h.finOnly hp rfl
  refine ⟨hF, harr, hnid, fun p e => alt_last (harr ▸ hwf.2) e, fun m b e => hnid (hF.lastInv _ _ _ e),
    fun r hr => (h.execdHeld r hr).elim id fun e => ?_, fun hrest hlast => ?_⟩
  · simp [View.held, hp, Pc.held, hasId] at e
  -- `notLast`: the last arrived task lies in `rest ++ rh`, whose ids are not that of `t`
  · have e : v.fin ++ t :: (rest ++ v.rh) = (v.fin ++ [t]) ++ (rest ++ v.rh) := by simp
    have hnd := hwf.1
    rw [harr, e] at hlast hnd
    rw [getLast?_append_ne_nil (by simp [hrest])] at hlast
    exact nodup_id_disj hnd (a := t) (b := t) (by simp) (List.mem_of_getLast? hlast) rfl

theorem PopV.prev_sub {v : View} {t : Task} {rest : List Task} (hP : PopV v t rest) (hwf : WF v.arr)
    (ht : t.isSub = false) : ∃ p, v.fin.getLast? = some p ∧ p.isSub = true :=
  alt_first (hP.arr ▸ hwf.2) ht

theorem Sem.pop_late {v : View} (h : Sem v) (hwf : WF v.arr) (hp : v.pc = some .atLoop) {t : Task}
    {rest : List Task} (hq : v.q = t :: rest) (ht : t.isSub = true) (hrest : rest ≠ []) (line : String) :
    Sem { v with pc := some (.put t line .atLoop), ok := false, q := rest, late := v.late ++ [t] } := by
  have hP := h.popV hwf hp hq
  exact
  { h with
    seq := by rw [hP.arr]; simp [View.held, Pc.held]
    lateSucc := forall_mem_concat h.lateSucc (hP.notLast hrest)
    lateFin := forall_mem_concat hP.lateFin (.inr ⟨line, rfl⟩)
    outBetween := nofun
    outReply := fun _ _ e _ => by cases e; simpa using hP.lastInv_ne .sub true
    lastInvId := hP.lastInvId
    usbPaired := nofun
    execdArr := fun r hr => by
      obtain ⟨t', hm, rfl, hs, hl⟩ := h.execdArr r hr
      refine ⟨t', hm, rfl, hs, fun hl' => (List.mem_append.mp hl').elim hl fun e => ?_⟩
      cases List.mem_singleton.mp e; exact hP.fresh (hP.execd _ hr)
    codeAfterUsb := nofun
    codeExec := nofun
    codePublished := by rintro _ ⟨⟩ _ ⟨⟩
    codeReply := fun _ _ e _ hl => by cases e; simp at hl
    codeUsb := nofun
    fwdShape := fun r hr => by
      obtain ⟨_, _, p, e, hs, _⟩ := h.fwdBetween hp hr
      rw [hP.prev p e, ht] at hs; cases hs
    replOnly := hP.replOnly
    execdHeld := fun r hr => .inl (hP.execd r hr)
    lastInvNotLate := fun m r b hl => forall_mem_concat (h.lastInvNotLate m r b hl) fun e => hP.lastInv_ne m b (e ▸ hl)
    replClear := nofun }

/-- `pop_sub`, `pop_usb` and `pop_usb_skip` at once; the side conditions after `hu` are computations on `p'`. -/
theorem Sem.pop {v : View} (h : Sem v) (hwf : WF v.arr) (hp : v.pc = some .atLoop) {t : Task}
    {rest : List Task} (hq : v.q = t :: rest) {p' : Pc}
    (hu : (∃ t', p' = .callBegin .usb t') ↔ t.isSub = false ∧ v.ok = true)
    (hh : p'.held = some t := by rfl) (hb : p'.between = false := by rfl)
    (hput : ∀ t' l, p' ≠ .put t' l .atLoop := by nofun) (hpub : ∀ t', p'.published t' = false := by exact fun _ => rfl)
    (hcl : ∀ t', p' ≠ .clearCode t' := by nofun) :
    Sem { v with pc := some p', q := rest } := by
  have hP := h.popV hwf hp hq
  have hB : View.between v = true := by simp only [View.between, hp]; rfl
  have hnb : View.between { v with pc := some p', q := rest } ≠ true := by simp [View.between, hb]
  have hpair : t.isSub = false → v.ok = true → ∀ p, v.fin.getLast? = some p →
      v.lastInv = some (.sub, p.id, true) ∧ p ∉ v.late ∧ v.code = some p.id := fun ht hok p e => by
    have hs : p.isSub = true := by rw [hP.prev p e, ht]; rfl
    have hli := (h.outBetween hB p e hs).mp hok
    have hnl : p ∉ v.late := fun hl => h.lastInvNotLate _ _ _ hli p hl rfl
    exact ⟨hli, hnl, h.codeExec hB p e hs hnl⟩
  exact
  { h with
    seq := by rw [hP.arr]; simp [View.held, hh]
    lateFin := hP.lateFin
    outBetween := fun b => absurd b hnb
    outReply := fun t' l e => absurd (Option.some.inj e) (hput t' l)
    lastInvId := hP.lastInvId
    usbPaired := fun t' e => by
      obtain ⟨ht, hok⟩ := hu.mp ⟨t', Option.some.inj e⟩
      obtain ⟨p, e, hs⟩ := hP.prev_sub hwf ht
      exact ⟨p, e, hs, (hpair ht hok p e).1⟩
    codeAfterUsb := fun b => absurd b hnb
    codeExec := fun b => absurd b hnb
    codePublished := fun _ e t' ht' => by cases e; cases (hpub t').symm.trans ht'
    codeReply := fun t' l e => absurd (Option.some.inj e) (hput t' l)
    codeUsb := fun t' e p hl => by
      obtain ⟨ht, hok⟩ := hu.mp ⟨t', Option.some.inj e⟩
      exact (hpair ht hok p hl).2.2
    fwdShape := fun r hr => by
      obtain ⟨_, hok, p, e, hs, _, hid⟩ := h.fwdBetween hp hr
      obtain ⟨t', e'⟩ := hu.mpr ⟨by simpa [hs] using hP.prev p e, hok⟩
      exact .inr (.inr (.inr ⟨t', congrArg some e', p, e, hid⟩))
    replOnly := hP.replOnly
    execdHeld := fun r hr => .inl (hP.execd r hr)
    replClear := fun t' e => absurd (Option.some.inj e) (hcl t') }

/-- the ends of `snapshot` and `subscribe` that decide the reply of SUB `t`; a `snapshot` that returns goes on to
    `subscribe` instead, hence `hb`. -/
theorem Sem.subReply {v : View} (h : Sem v) {m : AMethod} {t : Task} (b : Bool) (line : String)
    (hp : v.pc = some (.inCall m t)) (hm : m ≠ .usb) (ht : t.isSub = true) (hwf : WF v.arr)
    (hb : m = .snap → b = false) :
    Sem { v with pc := some (.put t line .atLoop), ok := b,
                 lastInv := match (generalizing := false) m with | .snap => v.lastInv | _ => some (.sub, t.id, b),
                 fwd := match (generalizing := false) m, b with | .sub, false => none | _, _ => v.fwd } := by
  generalize hli' : (match (generalizing := false) m with | .snap => v.lastInv | _ => some (.sub, t.id, b)) = li
  generalize hfw' : (match (generalizing := false) m, b with | .sub, false => none | _, _ => v.fwd) = fw
  -- what the two matches say, for the rest of the proof: `lastInv` is kept (then `b = false`) or speaks of `t`; the
  -- window is closed, or kept, and then a `subscribe` has succeeded
  have hli : li = v.lastInv ∧ b = false ∨ li = some (.sub, t.id, b) := by
    cases m with
    | snap => exact .inl ⟨hli'.symm, hb rfl⟩
    | sub => exact .inr hli'.symm
    | usb => exact absurd rfl hm
  have hfw : fw = none ∨ fw = v.fwd ∧ (m = .sub → b = true) := by
    cases m with
    | snap => exact .inr ⟨hfw'.symm, nofun⟩
    | sub =>
      cases b
      · exact .inl hfw'.symm
      · exact .inr ⟨hfw'.symm, fun _ => rfl⟩
    | usb => exact absurd rfl hm
  have hnid := h.fin_fresh hwf hp rfl
  have hF := h.finOnly hp rfl
  exact
  { h with
    seq := h.seq_held hp rfl
    lateFin := hF.lateFin
    outBetween := nofun
    outReply := fun _ _ e _ => by
      cases e
      rcases hli with ⟨rfl, rfl⟩ | rfl
      · exact ⟨nofun, fun e => (hnid (hF.lastInv _ _ _ e)).elim⟩
      · simp
    lastInvId := fun m' r b' e => by
      rcases hli with ⟨rfl, -⟩ | rfl
      · exact .inl (hF.lastInv m' r b' e)
      · cases e; exact .inr ⟨_, rfl, rfl, t, rfl, rfl⟩
    usbPaired := nofun
    codeAfterUsb := nofun
    codeExec := nofun
    codePublished := by rintro _ ⟨⟩ _ ⟨⟩
    codeReply := fun _ _ e _ _ => by
      cases e; exact h.codePublished _ hp t (by cases m <;> first | exact absurd rfl hm | simp [Pc.published])
    codeUsb := nofun
    fwdShape := fun r hr => by
      rcases hfw with rfl | ⟨rfl, hb⟩
      · cases hr
      · rcases hp ▸ h.fwdShape r hr with ⟨_, ⟨⟩, hid⟩ | ⟨_, _, ⟨⟩, _⟩ | ⟨x, _⟩ | ⟨_, ⟨⟩, _⟩
        · exact .inr (.inl ⟨t, line, rfl, ht, fun hl => hnid (hasId_of_mem (hF.late t hl)), hb rfl, hid⟩)
        · simp [View.between, hp, Pc.between] at x
    replOnly := hF.replOnly
    execdHeld := h.execd_held hp rfl
    lastInvNotLate := fun m' r b' e p hl => by
      rcases hli with ⟨rfl, -⟩ | rfl
      · exact h.lastInvNotLate m' r b' e p hl
      · cases e; exact fun e => hnid ⟨p, hF.late p hl, e⟩
    replClear := nofun }

theorem Sem.setCode {v : View} (h : Sem v) {t : Task} (hp : v.pc = some (.setCode t)) (ht : t.isSub = true)
    (hwf : WF v.arr) :
    Sem { v with pc := some (.callBegin .snap t), code := some t.id, execd := v.execd ++ [t.id],
                 cleared := false } := by
  have hF := h.finOnly hp rfl
  exact
  { h with
    seq := h.seq_held hp rfl
    lateFin := hF.lateFin
    outBetween := nofun
    outReply := nofun
    lastInvId := hF.lastInvId
    usbPaired := nofun
    codeLast := fun r e => by cases e; simp
    execdArr := forall_mem_concat h.execdArr
      ⟨t, by rw [h.seq_held hp rfl]; simp, rfl, ht, fun hl => h.fin_fresh hwf hp rfl (hasId_of_mem (hF.late t hl))⟩
    codeAfterUsb := nofun
    codeNever := fun e => by simp at e
    codeExec := nofun
    codePublished := fun _ e t' ht' => by
      cases e; cases (by simpa [Pc.published] using ht' : t = t'); rfl
    codeReply := nofun
    codeUsb := nofun
    clearedNone := nofun
    fwdShape := fun r hr => nomatch (h.fwdBetween hp hr).1
    replOnly := hF.replOnly
    execdHeld := forall_mem_concat (h.execd_held hp rfl) (.inr (hasId_singleton.mpr rfl))
    replClear := nofun }

/-- unlike a SUB (`Sem.put_loop`), a USB is finished only after the id has been cleared (`Sem.clearCode`). -/
theorem Sem.put_clear {v : View} (h : Sem v) {t : Task} {line : String}
    (hp : v.pc = some (.put t line (.clearCode t))) (hwf : WF v.arr) :
    Sem { v with pc := some (.clearCode t), repl := v.repl ++ [t.id] } :=
  { h with
    seq := h.seq_held hp rfl
    lateFin := fun p hl => (h.lateFin p hl).imp id fun ⟨l, e⟩ => by cases hp.symm.trans e
    outBetween := nofun
    outReply := nofun
    lastInvId := fun m r b hl => (h.lastInvId m r b hl).imp id fun ⟨p, e, _, x⟩ => by
      cases hp.symm.trans e; exact ⟨_, rfl, rfl, x⟩
    usbPaired := nofun
    codeAfterUsb := nofun
    codeExec := nofun
    codePublished := by rintro _ ⟨⟩ _ ⟨⟩
    codeReply := nofun
    codeUsb := nofun
    fwdShape := fun r hr => nomatch (h.fwdBetween hp hr).1
    replNodup := h.replFresh hwf hp rfl nofun
    replFin := fun t' hm hl => List.mem_append_left _ (h.replFin t' hm hl)
    replOnly := forall_mem_concat
      (fun r hr => (h.replOnly r hr).imp id fun ⟨_, e, _⟩ => by cases hp.symm.trans e) (.inr ⟨t, rfl, rfl⟩)
    execdHeld := h.execd_held hp rfl
    replClear := fun _ e => by cases e; simp }

theorem Sem.clearCode {v : View} (h : Sem v) {t : Task} (hp : v.pc = some (.clearCode t)) (ht : t.isSub = false) :
    Sem { v with pc := some .atLoop, code := none, cleared := true, fin := v.fin ++ [t] } := by
  obtain ⟨hF, hexecd⟩ := h.finOnly_done hp rfl
  exact
  { h with
    seq := by simpa [View.held, hp, Pc.held] using h.seq
    lateFin := hF.lateFin
    noneLastUsb := fun _ => forall_getLast_concat ht
    outBetween := fun _ => forall_getLast_concat fun hs => nomatch ht.symm.trans hs
    outReply := nofun
    lastInvId := hF.lastInvId
    usbPaired := nofun
    codeLast := nofun
    codeAfterUsb := fun _ _ _ _ => rfl
    codeNever := fun _ => rfl
    codeExec := fun _ => forall_getLast_concat fun hs => nomatch ht.symm.trans hs
    codePublished := by rintro _ ⟨⟩ _ ⟨⟩
    codeReply := nofun
    codeUsb := nofun
    clearedNone := fun _ => rfl
    fwdShape := fun r hr => nomatch (h.fwdBetween hp hr).1
    replFin := forall_mem_concat h.replFin fun _ => h.replClear t hp
    replOnly := hF.replOnly
    execdHeld := fun r hr => .inl (hexecd r hr)
    replClear := nofun }

theorem Sem.usbReply {v : View} (h : Sem v) {t : Task} (line : String) (okc : Bool)
    (hp : v.pc = some (.inCall .usb t)) (hwf : WF v.arr) :
    Sem { v with pc := some (.put t line (.clearCode t)), lastInv := some (.usb, t.id, okc) } := by
  have hF := h.finOnly hp rfl
  exact
  { h with
    seq := h.seq_held hp rfl
    lateFin := hF.lateFin
    outBetween := nofun
    outReply := nofun
    lastInvId := fun _ _ _ e => by cases e; exact .inr ⟨_, rfl, rfl, t, rfl, rfl⟩
    usbPaired := nofun
    codeAfterUsb := nofun
    codeExec := nofun
    codePublished := by rintro _ ⟨⟩ _ ⟨⟩
    codeReply := nofun
    codeUsb := nofun
    fwdShape := fun r hr => nomatch (h.fwdBetween hp hr).1
    replOnly := hF.replOnly
    execdHeld := h.execd_held hp rfl
    lastInvNotLate := fun _ _ _ e p hl => by cases e; exact fun e => h.fin_fresh hwf hp rfl ⟨p, hF.late p hl, e⟩
    replClear := nofun }

theorem Sem.late_mem_arr {v : View} (h : Sem v) {p : Task} (hp : p ∈ v.late) : p ∈ v.arr := by
  rw [h.seq]
  rcases h.lateFin p hp with hf | ⟨l, e⟩
  · simp [hf]
  · simp [View.held, e, Pc.held]

theorem Sem.arr_of_none {v : View} (h : Sem v) (hp : v.pc = none) (hq : v.q = []) (hrh : v.rh = []) :
    v.arr = v.fin := by
  rw [h.seq, hq, hrh]; simp [View.held, hp]

theorem Sem.arrive {v : View} (h : Sem v) {t : Task} (hrh : v.rh = []) (hwf : WF (v.arr ++ [t])) :
    Sem { v with rh := [t], arr := v.arr ++ [t] } :=
  { h with
    seq := by simp [View.held, h.seq, hrh]
    lateSucc := fun p hl e => by
      cases List.getLast?_concat.symm.trans e
      exact nodup_id_disj hwf.1 (h.late_mem_arr hl) (List.mem_singleton_self _) rfl
    execdArr := fun r hr =>
      let ⟨t', hm, x⟩ := h.execdArr r hr
      ⟨t', List.mem_append_left _ hm, x⟩ }

theorem Sem.arriveFresh {v : View} (h : Sem v) {t : Task} (hrh : v.rh = []) (hwf : WF (v.arr ++ [t])) :
    Sem { v with act := true, rh := [t], arr := v.arr ++ [t] } :=
  { h.arrive hrh hwf with noneLastUsb := nofun }

/-- an unsubscription never finds the item without manager. -/
theorem Sem.noMgr_absurd {v : View} (h : Sem v) {t : Task} (ha : v.act = false) (hpc : v.pc = none)
    (hq : v.q = []) (hrh : v.rh = []) (ht : t.isSub = false) (hwf : WF (v.arr ++ [t])) : False := by
  have hA := hwf.2
  rw [h.arr_of_none hpc hq hrh] at hA
  obtain ⟨p, hp, hs⟩ := alt_first hA ht
  cases (h.noneLastUsb ha p hp).symm.trans hs

theorem Sem.addTask {v : View} (h : Sem v) {t : Task} (hrh : v.rh = [t]) :
    Sem { v with q := v.q ++ [t], rh := [] } :=
  { h with
    seq := by simp [View.held, h.seq, hrh] }

theorem Sem.submit {v : View} (h : Sem v) {t : Task} (hrh : v.rh = [t]) (hp : v.pc = none) :
    Sem { v with pc := some .inPool, q := v.q ++ [t], rh := [] } :=
  (h.addTask hrh).move hp

/-- the last finished task is no SUB: skipped, it would have a successor; executed, its id would be published. -/
theorem Sem.unregister {v : View} (h : Sem v) (hp : v.pc = none) (hq : v.q = []) (hrh : v.rh = [])
    (hc : v.code = none) : Sem { v with act := false, ok := false } :=
  have hb : v.between = true := by simp [View.between, hp]
  have hnosub : ∀ p, v.fin.getLast? = some p → p.isSub = false := fun p e => by
    cases hs : p.isSub with
    | false => rfl
    | true =>
      refine absurd (h.codeExec hb p e hs fun hl => h.lateSucc p hl ?_) (by rw [hc]; nofun)
      rw [h.arr_of_none hp hq hrh]; exact e
  { h with
    noneLastUsb := fun _ => hnosub
    outBetween := fun _ t e hs => by cases (hnosub t e).symm.trans hs
    outReply := fun _ _ e => by cases hp.symm.trans e
    fwdShape := fun r hr => by
      obtain ⟨_, _, t, e, hs, _⟩ := h.fwdBetween hp hr
      cases (hnosub t e).symm.trans hs }

end Ari.Conc
