import AriVerif.Conc.Data
import AriVerif.Conc.Threads
/-
  Conc/DataStep.lean — the Data server model (`Conc/Data.lean`) taken apart once: what `getItem` / `putItem` / `liftItem`
  do, and `GStepKind`, the steps of `gstep` as an inductive relation with one constructor per kind of step and the exact
  successor state.  Every theorem about the model argues by cases on `GStepKind`; `gstep` itself is unfolded here only.
-/
namespace Ari.Conc

theorem getItem_congr {s s' : DState} (h : s'.items = s.items) (x : String) :
    getItem s' x = getItem s x := by
  unfold getItem; rw [h]

/-- list-level lookup underlying `getItem`. -/
def lk (l : List (String × IState)) (x : String) : IState :=
  match l.find? (·.1 = x) with
  | some (_, i) => i
  | none => IState.init x

/-- list-level update underlying `putItem`. -/
def setItem (l : List (String × IState)) (x : String) (i : IState) : List (String × IState) :=
  if l.any (·.1 = x) then l.map fun (y, j) => if y = x then (y, i) else (y, j) else l ++ [(x, i)]

theorem putItem_eq (s : DState) (x : String) (i : IState) : putItem s x i = { s with items := setItem s.items x i } := by
  unfold putItem setItem; split <;> rfl

theorem lk_cons (a : String) (b : IState) (l : List (String × IState)) (x : String) :
    lk ((a, b) :: l) x = if a = x then b else lk l x := by
  by_cases h : a = x <;> simp [lk, List.find?, h]

theorem lk_map (l : List (String × IState)) (x y : String) (i : IState) :
    lk (l.map fun (z, j) => if z = x then (z, i) else (z, j)) y =
      if y = x ∧ l.any (·.1 = x) = true then i else lk l y := by
  induction l with
  | nil => simp
  | cons p l ih =>
    obtain ⟨a, b⟩ := p
    by_cases hax : a = x <;> by_cases hay : a = y <;> simp_all [lk_cons] <;> grind

theorem lk_append (l : List (String × IState)) (x y : String) (i : IState) :
    lk (l ++ [(x, i)]) y = if y = x ∧ ¬ l.any (·.1 = x) = true then i else lk l y := by
  induction l with
  | nil => by_cases h : x = y <;> simp [lk, h, eq_comm]
  | cons p l ih =>
    obtain ⟨a, b⟩ := p
    by_cases hax : a = x <;> by_cases hay : a = y <;> simp_all [lk_cons] <;> grind

theorem lk_setItem (l : List (String × IState)) (x y : String) (i : IState) :
    lk (setItem l x i) y = if y = x then i else lk l y := by
  unfold setItem
  by_cases h : l.any (·.1 = x) = true
  · rw [if_pos h, lk_map]; simp [h]
  · rw [if_neg h, lk_append]; simp [h]

theorem getItem_putItem (s : DState) (x y : String) (i : IState) :
    getItem (putItem s x i) y = if y = x then i else getItem s y := by
  rw [putItem_eq]; exact lk_setItem ..

theorem markFal_eq (s : DState) (tid item : String) (kind : LKind) :
    markFal s tid item kind = { s with pendFal := (markFal s tid item kind).pendFal } := by
  unfold markFal; split <;> (try split) <;> rfl

def ienqs (e : List Eff) : List String :=
  e.filterMap fun x => match x with | .enqueue l => some l | _ => none

def isubs (e : List Eff) : List Nat :=
  e.filterMap fun x => match x with | .submit k => some k | _ => none

def genqs (e : List GEff) : List String :=
  e.filterMap fun x => match x with | .enqueue l => some l | _ => none

/-- the effects of a step of item `y` in the global vocabulary; `n` pool tasks exist, a submission creates the next. -/
def liftEffs (y : String) : Nat → List Eff → List GEff
  | _, [] => []
  | n, .enqueue l :: e => .enqueue l :: liftEffs y n e
  | n, .submit _ :: e => .submit (n + 1) :: liftEffs y (n + 1) e
  | n, .adapterBegin m :: e => .adapterBegin m y :: liftEffs y n e
  | n, .adapterEnd m :: e => .adapterEnd m y :: liftEffs y n e

theorem genqs_liftEffs (y : String) (n : Nat) (e : List Eff) : genqs (liftEffs y n e) = ienqs e := by
  induction e generalizing n with
  | nil => rfl
  | cons x e ih => cases x <;> simp_all [liftEffs, genqs, ienqs]

/-- the server state after item `y` has moved to `i'` with effects `e`; the instances submitted become pool tasks numbered
    from the current count. -/
def DState.lifted (s : DState) (y : String) (i' : IState) (e : List Eff) : DState :=
  { s with items := setItem s.items y i', sendQ := s.sendQ ++ (ienqs e).map some,
           tasks := s.tasks ++ (isubs e).map (fun k => (y, k)),
           workQ := s.workQ ++ List.range' (s.tasks.length + 1) (isubs e).length }

/-- the effect-lifting function folded by `liftItem`. -/
def gliftF (y : String) (acc : DState × List GEff) (e : Eff) : DState × List GEff :=
  match e with
  | .enqueue l => ({ acc.1 with sendQ := acc.1.sendQ ++ [some l] }, acc.2 ++ [.enqueue l])
  | .submit k =>
    let n := acc.1.tasks.length + 1
    ({ acc.1 with tasks := acc.1.tasks ++ [(y, k)], workQ := acc.1.workQ ++ [n] }, acc.2 ++ [.submit n])
  | .adapterBegin m => (acc.1, acc.2 ++ [.adapterBegin m y])
  | .adapterEnd m => (acc.1, acc.2 ++ [.adapterEnd m y])

theorem foldl_gliftF (y : String) (e : List Eff) (acc : DState × List GEff) :
    e.foldl (gliftF y) acc =
      ({ acc.1 with sendQ := acc.1.sendQ ++ (ienqs e).map some,
                    tasks := acc.1.tasks ++ (isubs e).map (fun k => (y, k)),
                    workQ := acc.1.workQ ++ List.range' (acc.1.tasks.length + 1) (isubs e).length },
       acc.2 ++ liftEffs y acc.1.tasks.length e) := by
  induction e generalizing acc with
  | nil => simp [ienqs, isubs, liftEffs]
  | cons x e ih =>
    rw [List.foldl_cons, ih]
    cases x <;> simp [gliftF, ienqs, isubs, liftEffs, List.range'_succ]

theorem liftItem_eq (s : DState) (y : String) (a : IAct) :
    liftItem s y a = (istep (getItem s y) a).map fun p => (s.lifted y p.1 p.2, liftEffs y s.tasks.length p.2) := by
  unfold liftItem
  cases istep (getItem s y) a with
  | none => rfl
  | some p =>
    show some ((p.2.foldl (gliftF y) (putItem s y p.1, [])).1, (p.2.foldl (gliftF y) (putItem s y p.1, [])).2) = _
    rw [foldl_gliftF, putItem_eq]
    rfl

theorem liftItem_of {s : DState} {y : String} {a : IAct} {i' : IState} {e : List Eff}
    (hi : istep (getItem s y) a = some (i', e)) :
    liftItem s y a = some (s.lifted y i' e, liftEffs y s.tasks.length e) := by
  rw [liftItem_eq, hi]; rfl

theorem getItem_lifted (s : DState) (y : String) (i' : IState) (e : List Eff) (z : String) :
    getItem (s.lifted y i' e) z = if z = y then i' else getItem s z := lk_setItem ..

theorem liftItem_spec {s : DState} {y : String} {a : IAct} {s' : DState} {ge : List GEff}
    (h : liftItem s y a = some (s', ge)) :
    ∃ i' e, istep (getItem s y) a = some (i', e) ∧ s' = s.lifted y i' e ∧ ge = liftEffs y s.tasks.length e := by
  rw [liftItem_eq] at h
  obtain ⟨p, hi, hp⟩ := Option.map_eq_some_iff.1 h
  cases hp
  exact ⟨p.1, p.2, hi, rfl, rfl⟩

/-- the function the reader folds over the lines of a chunk. -/
def lineF (s : DState) (acc : List ROp × Bool) (l : String) : List ROp × Bool :=
  (acc.1 ++ (lineOps { s with initExpected := acc.2 } l).1, (lineOps { s with initExpected := acc.2 } l).2)

/-- the reader's list and init flag after a chunk that completes `lines`. -/
def readOps (s : DState) (lines : List String) : List ROp × Bool := lines.foldl (lineF s) ([], s.initExpected)

/-- what a pool task does inside the loop body of its dequeuer instance `k`, by operation class and program counter. -/
def taskAct (k : Nat) : OpClass → Pc → Option IAct
  | .itemLock, .atLoop => some (.pop k)
  | .put, .put _ _ _ => some (.put k)
  | .mgrLock, .setCode _ => some (.setCode k)
  | .mgrLock, .eosRead _ => some (.eosRead k)
  | .mgrLock, .clearCode _ => some (.clearCode k)
  | .adapterBegin, .callBegin _ _ => some (.callBegin k)
  | .adapterEnd o, .inCall _ _ => some (.callEnd k o)
  | _, _ => none

/-- who calls a listener method for item `x` from thread `tid`: a pool task inside an adapter call (as itself for its own
    item, as an anonymous thread for another item), or an adapter-owned thread.  The anonymous slot is `1000 + n` as in
    Conc/Data.lean: above the numbers of the adapter-owned threads `E<e>` the scenarios spawn (harness/cosim_data.py). -/
inductive Caller (s : DState) (tid x : String) : Who → Prop
  | own {n k : Nat} {m : AMethod} {t : Task} (hT : IsTask tid n) (ht : s.tasks[n - 1]? = some (x, k))
      (hpc : ((getItem s x).insts k).pc = .inCall m t) : Caller s tid x (.inst k)
  | foreign {n k : Nat} {y : String} {m : AMethod} {t : Task} (hT : IsTask tid n) (ht : s.tasks[n - 1]? = some (y, k))
      (hpc : ((getItem s y).insts k).pc = .inCall m t) (hne : x ≠ y) : Caller s tid x (.ext (1000 + n))
  | ext {e : Nat} (hT : Other tid) (hnT : tid.startsWith "T" = false) (hE : tid.startsWith "E" = true)
      (he : (tid.drop 1).toString.toNat? = some e) : Caller s tid x (.ext e)

theorem Caller.other {s : DState} {tid x : String} {w : Who} (h : Caller s tid x w) : Other tid := by
  cases h with
  | own hT | foreign hT => exact hT.other
  | ext hT => exact hT

/-- the reader (writer) thread has been started and has not left its loop. -/
abbrev DState.readerRuns (s : DState) : Prop := s.rst ≠ 0 ∧ s.rst ≠ 1 ∧ s.rst ≠ 3 ∧ s.rst ≠ 4
abbrev DState.writerRuns (s : DState) : Prop := s.wst ≠ 0 ∧ s.wst ≠ 1

/-- every successful `gstep` is one of these, and conversely (`GStepKind.sound`).  A step that moves an item is given by
    the item step and `DState.lifted`. -/
inductive GStepKind (s : DState) (x : String) : String → OpClass → DState → List GEff → Prop
  | deliver (c : String) (he : s.inEnd = false) :
      GStepKind s x "P" (.deliver c) { s with inbound := s.inbound ++ [c] } []
  | endOfInput : GStepKind s x "P" .endOfInput { s with inEnd := true } []
  | mStart (h : s.mpc = 0) : GStepKind s x "M" .threadStart { s with mpc := 1, wst := 1 } []
  | mPut (h : s.mpc = 1) :
      GStepKind s x "M" .put
        { s with sendQ := s.sendQ ++ [some ("1|" ++ writeCredentials s.user s.password)], mpc := 2, rst := 1 }
        [.enqueue ("1|" ++ writeCredentials s.user s.password)]
  | rStart (h : s.rst = 1) : GStepKind s x "R" .threadStart { s with rst := 2 } []
  | rRecv {c : String} {rest : List String} (hr : s.readerRuns) (hmid : s.rmid = none)
      (hrq : s.rq = []) (hin : s.inbound = c :: rest) :
      GStepKind s x "R" .recv
        { s with inbound := rest, rbuf := (feed s.rbuf c).2, rq := (readOps s (feed s.rbuf c).1).1,
                 initExpected := (readOps s (feed s.rbuf c).1).2 } []
  | rFail (hr : s.readerRuns) (hmid : s.rmid = none) (hrq : s.rq = [])
      (hin : s.inbound = []) (he : s.inEnd = true) :
      GStepKind s x "R" .recv (gioReport { s with rst := 4 }) (gioEffects s)
  | rPut {l : String} {rest : List ROp} (hr : s.readerRuns) (hmid : s.rmid = none)
      (hrq : s.rq = .reply l :: rest) :
      GStepKind s x "R" .put { s with rq := rest, sendQ := s.sendQ ++ [some l] } [.enqueue l]
  | rQuit {rest : List ROp} (hr : s.readerRuns) (hmid : s.rmid = none)
      (hrq : s.rq = .quit :: rest) :
      GStepKind s x "R" .put { s with rq := rest, sendQ := s.sendQ ++ [none], cpc := 1 } [.enqueuePill]
  | rJoin {rest : List ROp} (hr : s.readerRuns) (hmid : s.rmid = none)
      (hrq : s.rq = .poolShutdown :: rest) (hc : s.cpc = 1) (hw : s.wpc = .stopped ∨ s.wpc = .failed) :
      GStepKind s x "R" .join { s with cpc := 2 } []
  | rPoolWait {rest : List ROp} (hr : s.readerRuns) (hmid : s.rmid = none)
      (hrq : s.rq = .poolShutdown :: rest) (hc : s.cpc = 2) (hrun : s.running = 0) (hq : s.workQ = []) :
      GStepKind s x "R" .poolWait { s with cpc := 3, sockClosed := true, rq := [], rst := 3 } [.sockClose]
  | rLock {y : String} {t : Task} {rest : List ROp} {i' : IState} {e : List Eff}
      (hr : s.readerRuns) (hmid : s.rmid = none) (hrq : s.rq = .req y t :: rest)
      (hi : istep (getItem s y) (.lockMgr t) = some (i', e)) :
      GStepKind s x "R" .mgrLock
        { s.lifted y i' e with rq := rest, rmid := if i'.rheld.isSome then some y else none }
        (liftEffs y s.tasks.length e)
  | rAdd {y : String} {i' : IState} {e : List Eff} (hr : s.readerRuns)
      (hmid : s.rmid = some y) (hi : istep (getItem s y) .addTask = some (i', e)) :
      GStepKind s x "R" .itemLock { s.lifted y i' e with rmid := none } (liftEffs y s.tasks.length e)
  | wStart (h : s.wst = 1) : GStepKind s x "W" .threadStart { s with wst := 2 } []
  | wGet {m : String} {rest : List (Option String)} (hw : s.writerRuns) (b : Bool) (hpc : s.wpc = .get)
      (hq : s.sendQ = some m :: rest) : GStepKind s x "W" (.get b) { s with sendQ := rest, wpc := .send m } []
  | wPill {rest : List (Option String)} (hw : s.writerRuns) (b : Bool) (hpc : s.wpc = .get)
      (hq : s.sendQ = none :: rest) : GStepKind s x "W" (.get b) { s with sendQ := rest, wpc := .stopped } []
  | wSend {m : String} (hw : s.writerRuns) (hpc : s.wpc = .send m) :
      GStepKind s x "W" .send { s with wpc := .get, written := s.written ++ [m] } [.sent (m ++ "\r\n")]
  | wFail {m : String} (hw : s.writerRuns) (hpc : s.wpc = .send m) :
      GStepKind s x "W" .sendFail (gioReport { s with wpc := .failed }) (gioEffects s)
  | failurePut {tid : String} (hT : Other tid) (msg : String) :
      GStepKind s x tid (.failurePut msg) { s with sendQ := s.sendQ ++ [some (writeFailure msg)] }
        [.enqueue (writeFailure msg)]
  | excFailurePut {tid : String} (hT : Other tid) (msg : String) (hp : s.pendFal.contains tid = true) :
      GStepKind s x tid (.excFailurePut msg)
        { s with sendQ := s.sendQ ++ [some (writeFailure msg)], pendFal := s.pendFal.erase tid }
        [.enqueue (writeFailure msg)]
  | tStart {tid y : String} {n k : Nat} {i' : IState} {e : List Eff} (hT : IsTask tid n)
      (ht : s.tasks[n - 1]? = some (y, k)) (hpc : ((getItem s y).insts k).pc = .inPool)
      (hq : s.workQ.head? = some n) (hrun : s.running < s.poolN)
      (hi : istep (getItem s y) (.start k) = some (i', e)) :
      GStepKind s x tid .taskStart
        ({ s with workQ := s.workQ.tail, running := s.running + 1 }.lifted y i' e) (liftEffs y s.tasks.length e)
  | tDec {tid y : String} {n k : Nat} {i' : IState} {e : List Eff} (hT : IsTask tid n)
      (ht : s.tasks[n - 1]? = some (y, k)) (hpc : ((getItem s y).insts k).pc = .dec)
      (hi : istep (getItem s y) (.dec k) = some (i', e)) :
      GStepKind s x tid .mgrLock { s.lifted y i' e with running := s.running - 1 } (liftEffs y s.tasks.length e)
  | task {tid y : String} {op : OpClass} {n k : Nat} {a : IAct} {i' : IState} {e : List Eff} (hT : IsTask tid n)
      (ht : s.tasks[n - 1]? = some (y, k)) (ha : taskAct k op ((getItem s y).insts k).pc = some a)
      (hi : istep (getItem s y) a = some (i', e)) :
      GStepKind s x tid op (s.lifted y i' e) (liftEffs y s.tasks.length e)
  | lsnRead {tid : String} {w : Who} {i' : IState} {e : List Eff} (hw : Caller s tid x w) (kind : LKind)
      (hi : istep (getItem s x) (.lsnRead w kind) = some (i', e)) :
      GStepKind s x tid (.lsnLock kind) { s.lifted x i' e with pendFal := (markFal s tid x kind).pendFal }
        (liftEffs x s.tasks.length e)
  | lsnPut {tid : String} {w : Who} {i' : IState} {e : List Eff} (hw : Caller s tid x w)
      (hi : istep (getItem s x) (.lsnPut w) = some (i', e)) :
      GStepKind s x tid .lsnPutOp (s.lifted x i' e) (liftEffs x s.tasks.length e)

theorem gstep_kind {s s' : DState} {tid : String} {op : OpClass} {x : String} {effs : List GEff}
    (h : gstep s tid op x = some (s', effs)) : GStepKind s x tid op s' effs := by
  unfold gstep at h
  by_cases hx : s.exited = true
  · rw [if_pos hx] at h; cases h
  rw [if_neg hx] at h
  by_cases hP : tid = "P"
  · rw [if_pos hP] at h
    subst hP
    split at h
    · split at h
      · cases h
      · next he => cases h; exact .deliver _ (by simpa using he)
    · cases h; exact .endOfInput
    · cases h
  rw [if_neg hP] at h
  by_cases hM : tid = "M"
  · rw [if_pos hM] at h
    subst hM
    split at h
    · next hm => cases h; exact .mStart hm
    · next hm => cases h; exact .mPut hm
    · cases h
  rw [if_neg hM] at h
  by_cases hR : tid = "R"
  · rw [if_pos hR] at h
    subst hR
    by_cases h1 : s.rst = 1
    · rw [if_pos h1] at h
      split at h
      · cases h; exact .rStart h1
      · cases h
    rw [if_neg h1] at h
    by_cases h0 : s.rst = 0 ∨ s.rst = 3 ∨ s.rst = 4
    · rw [if_pos h0] at h; cases h
    rw [if_neg h0] at h
    have hr : s.readerRuns := by omega
    split at h
    · split at h
      · split at h
        · cases h; exact .rFail hr ‹_› ‹_› ‹_› ‹_›
        · cases h
      · dsimp only at h; cases h; exact .rRecv hr ‹_› ‹_› ‹_›
    · cases h; exact .rPut hr ‹_› ‹_›
    · cases h; exact .rQuit hr ‹_› ‹_›
    · split at h
      · next hc => cases h; exact .rJoin hr ‹_› ‹_› hc.1 hc.2
      · cases h
    · split at h
      · next hc => cases h; exact .rPoolWait hr ‹_› ‹_› hc.1 hc.2.1 hc.2.2
      · cases h
    · split at h
      · next hl =>
        obtain ⟨i', e, hi, rfl, rfl⟩ := liftItem_spec hl
        rw [getItem_lifted, if_pos rfl] at h
        split at h <;> cases h
        · have := GStepKind.rLock (x := x) hr ‹_› ‹_› hi
          rwa [if_pos ‹_›] at this
        · have := GStepKind.rLock (x := x) hr ‹_› ‹_› hi
          rw [if_neg ‹_›, ← ‹s.rmid = none›] at this
          exact this
      · cases h
    · split at h
      · next hl =>
        obtain ⟨i', e, hi, rfl, rfl⟩ := liftItem_spec hl
        cases h; exact .rAdd hr ‹_› hi
      · cases h
    · cases h
  rw [if_neg hR] at h
  by_cases hW : tid = "W"
  · rw [if_pos hW] at h
    subst hW
    by_cases h1 : s.wst = 1
    · rw [if_pos h1] at h
      split at h
      · cases h; exact .wStart h1
      · cases h
    rw [if_neg h1] at h
    by_cases h0 : s.wst = 0
    · rw [if_pos h0] at h; cases h
    rw [if_neg h0] at h
    have hw : s.writerRuns := ⟨h0, h1⟩
    split at h
    · split at h
      · cases h; exact .wGet hw _ ‹_› ‹_›
      · cases h; exact .wPill hw _ ‹_› ‹_›
      · cases h
    · cases h; exact .wSend hw ‹_›
    · cases h; exact .wFail hw ‹_›
    · cases h
  rw [if_neg hW] at h
  have hT : Other tid := ⟨hP, hM, hR, hW⟩
  split at h
  · rw [if_pos rfl] at h; cases h; exact .failurePut hT _
  · rw [if_pos rfl] at h
    split at h
    · cases h; exact .excFailurePut hT _ ‹_›
    · cases h
  rw [if_neg Bool.false_ne_true] at h
  by_cases hsw : tid.startsWith "T" = true
  · rw [if_pos hsw] at h
    split at h
    · cases h
    next n hn =>
    have hTn : IsTask tid n := ⟨hT, hsw, hn⟩
    split at h
    · cases h
    next y k ht =>
    dsimp only at h
    -- the arms of the model's `match op, pc`, in its order: `taskStart`, two of the loop body, `lsnPutOp`, three of the
    -- loop body, `dec`, `lsnLock`, two of the loop body, and the rest
    split at h
    · split at h
      · next hc =>
        obtain ⟨i', e, hi, rfl, rfl⟩ := liftItem_spec h
        exact .tStart hTn ht ‹_› hc.1 hc.2 hi
      · cases h
    iterate 2
      obtain ⟨i', e, hi, rfl, rfl⟩ := liftItem_spec h
      exact .task hTn ht (by rw [‹((getItem s y).insts k).pc = _›]; rfl) hi
    · split at h
      · next hxy =>
        subst hxy
        obtain ⟨i', e, hi, rfl, rfl⟩ := liftItem_spec h
        exact .lsnPut (.own hTn ht ‹_›) hi
      · next hxy =>
        obtain ⟨i', e, hi, rfl, rfl⟩ := liftItem_spec h
        exact .lsnPut (.foreign hTn ht ‹_› hxy) hi
    iterate 3
      obtain ⟨i', e, hi, rfl, rfl⟩ := liftItem_spec h
      exact .task hTn ht (by rw [‹((getItem s y).insts k).pc = _›]; rfl) hi
    · obtain ⟨⟨s1, e1⟩, hl, hr⟩ := Option.map_eq_some_iff.1 h
      obtain ⟨i', e, hi, rfl, rfl⟩ := liftItem_spec hl
      cases hr
      exact .tDec hTn ht ‹_› hi
    · split at h
      · next hxy =>
        subst hxy
        rw [markFal_eq] at h
        obtain ⟨i', e, hi, rfl, rfl⟩ := liftItem_spec h
        exact .lsnRead (.own hTn ht ‹_›) _ hi
      · next hxy =>
        rw [markFal_eq] at h
        obtain ⟨i', e, hi, rfl, rfl⟩ := liftItem_spec h
        exact .lsnRead (.foreign hTn ht ‹_› hxy) _ hi
    iterate 2
      obtain ⟨i', e, hi, rfl, rfl⟩ := liftItem_spec h
      exact .task hTn ht (by rw [‹((getItem s y).insts k).pc = _›]; rfl) hi
    · cases h
  rw [if_neg hsw] at h
  by_cases hE : tid.startsWith "E" = true
  · rw [if_pos hE] at h
    split at h
    · cases h
    next e he =>
    have hc : Caller s tid x (.ext e) := .ext hT (by simpa using hsw) hE he
    split at h
    · rw [markFal_eq] at h
      obtain ⟨i', e, hi, rfl, rfl⟩ := liftItem_spec h
      exact .lsnRead hc _ hi
    · obtain ⟨i', e, hi, rfl, rfl⟩ := liftItem_spec h
      exact .lsnPut hc hi
    · cases h
  rw [if_neg hE] at h
  cases h

theorem gstep_not_exited {s s' : DState} {tid : String} {op : OpClass} {x : String} {e : List GEff}
    (h : gstep s tid op x = some (s', e)) : s.exited = false := by
  cases hx : s.exited with
  | false => rfl
  | true => unfold gstep at h; rw [if_pos hx] at h; cases h

/-- a listener call, whoever makes it, is the item's own step (after `markFal`, for a read). -/
theorem gstep_lsn {s : DState} {tid x : String} {w : Who} (hx : s.exited = false) (hw : Caller s tid x w) :
    (∀ kind, gstep s tid (.lsnLock kind) x = liftItem (markFal s tid x kind) x (.lsnRead w kind)) ∧
    gstep s tid .lsnPutOp x = liftItem s x (.lsnPut w) := by
  unfold gstep
  -- `↓reduceIte` decides each `if` from the facts given without looking into its branches
  cases hw with
  | own hT ht hpc =>
    obtain ⟨⟨h1, h2, h3, h4⟩, h5, h6⟩ := hT
    simp only [↓reduceIte, hx, h1, h2, h3, h4, h5, h6, ht, hpc, Bool.false_eq_true, implies_true, and_self]
  | foreign hT ht hpc hne =>
    obtain ⟨⟨h1, h2, h3, h4⟩, h5, h6⟩ := hT
    simp only [↓reduceIte, hx, h1, h2, h3, h4, h5, h6, ht, hpc, hne, Bool.false_eq_true, implies_true, and_self]
  | ext hT hnT hE he =>
    obtain ⟨h1, h2, h3, h4⟩ := hT
    simp only [↓reduceIte, hx, h1, h2, h3, h4, hnT, hE, he, Bool.false_eq_true, implies_true, and_self]

theorem GStepKind.sound {s s' : DState} {tid : String} {op : OpClass} {x : String} {effs : List GEff}
    (hx : s.exited = false) (h : GStepKind s x tid op s' effs) : gstep s tid op x = some (s', effs) := by
  have hx' : ¬ s.exited = true := by simp [hx]
  unfold gstep
  rw [if_neg hx']
  cases h with
  | deliver c he => simp [he]
  | endOfInput => simp
  | mStart h => simp [h]
  | mPut h => simp [h]
  | rStart h => simp [h]
  | rRecv hr hmid hrq hin =>
    rw [if_neg (by decide), if_neg (by decide), if_pos rfl, if_neg hr.2.1, if_neg (by omega)]
    -- `simp [hmid, hrq, hin]` would also rewrite inside the state `lineOps` is given; make the equations definitional
    cases s
    dsimp only at hmid hrq hin ⊢
    subst hmid hrq hin
    rfl
  | rFail hr hmid hrq hin he => simp [hr, hmid, hrq, hin, he]
  | rPut hr hmid hrq => simp [hr, hmid, hrq]
  | rQuit hr hmid hrq => simp [hr, hmid, hrq]
  | rJoin hr hmid hrq hc hw => simp [hr, hmid, hrq, hc, hw]
  | rPoolWait hr hmid hrq hc hrun hq => simp [hr, hmid, hrq, hc, hrun, hq]
  | rLock hr hmid hrq hi =>
    simp only [String.reduceEq, if_false, if_true, hr, hmid, hrq, liftItem_of hi, getItem_lifted, false_or]
    split <;> simp [DState.lifted, *]
  | rAdd hr hmid hi => simp [hr, hmid, liftItem_of hi]
  | wStart h => simp [h]
  | wGet hw b hpc hq => simp [hw, hpc, hq]
  | wPill hw b hpc hq => simp [hw, hpc, hq]
  | wSend hw hpc => simp [hw, hpc]
  | wFail hw hpc => simp [hw, hpc]
  | failurePut hT msg => obtain ⟨h1, h2, h3, h4⟩ := hT; simp [h1, h2, h3, h4]
  | excFailurePut hT msg hp =>
    obtain ⟨h1, h2, h3, h4⟩ := hT
    rw [if_neg h1, if_neg h2, if_neg h3, if_neg h4, if_pos rfl]
    simp only [hp, if_true]
  | tStart hT ht hpc hq hrun hi =>
    obtain ⟨⟨h1, h2, h3, h4⟩, h5, h6⟩ := hT
    rw [if_neg h1, if_neg h2, if_neg h3, if_neg h4, if_neg (by simp), if_pos h5]
    simp only [h6, ht, hpc]
    rw [if_pos ⟨hq, hrun⟩]
    exact liftItem_of (s := { s with workQ := s.workQ.tail, running := s.running + 1 }) hi
  | tDec hT ht hpc hi =>
    obtain ⟨⟨h1, h2, h3, h4⟩, h5, h6⟩ := hT
    rw [if_neg h1, if_neg h2, if_neg h3, if_neg h4, if_neg (by simp), if_pos h5]
    simp only [h6, ht, hpc, liftItem_of hi]
    rfl
  | task hT ht ha hi =>
    obtain ⟨⟨h1, h2, h3, h4⟩, h5, h6⟩ := hT
    rw [if_neg h1, if_neg h2, if_neg h3, if_neg h4]
    unfold taskAct at ha
    split at ha <;> cases ha
    all_goals
      rw [if_neg (by simp), if_pos h5]
      simp only [h6, ht, ‹((getItem s _).insts _).pc = _›]
      exact liftItem_of hi
  | lsnRead hw kind hi =>
    -- `gstep_lsn`, unfolded as the goal has been
    have hg := (gstep_lsn hx hw).1 kind
    unfold gstep at hg
    rw [if_neg hx'] at hg
    rw [hg, markFal_eq, liftItem_of (s := { s with pendFal := (markFal s tid x kind).pendFal }) hi]
    rfl
  | lsnPut hw hi =>
    have hg := (gstep_lsn hx hw).2
    unfold gstep at hg
    rw [if_neg hx'] at hg
    rw [hg, liftItem_of hi]

theorem GStepKind.isSome {s s' : DState} {tid : String} {op : OpClass} {x : String} {effs : List GEff}
    (hx : s.exited = false) (h : GStepKind s x tid op s' effs) : (gstep s tid op x).isSome = true := by
  rw [h.sound hx]; rfl

theorem gstep_isSome_iff {s : DState} {tid : String} {op : OpClass} {x : String} :
    (gstep s tid op x).isSome = true ↔ s.exited = false ∧ ∃ s' effs, GStepKind s x tid op s' effs := by
  refine ⟨fun h => ?_, fun ⟨hx, _, _, hk⟩ => hk.isSome hx⟩
  obtain ⟨⟨s', effs⟩, hg⟩ := Option.isSome_iff_exists.1 h
  exact ⟨gstep_not_exited hg, s', effs, gstep_kind hg⟩

theorem gstep_io_enabled (s : DState) (x : String) (hx : s.exited = false) :
    (s.rst = 2 → s.rmid = none → s.rq = [] → (s.inbound ≠ [] ∨ s.inEnd = true) → (gstep s "R" .recv x).isSome) ∧
    (s.rst = 2 → s.rmid = none → ∀ l rest, s.rq = .reply l :: rest → (gstep s "R" .put x).isSome) ∧
    (s.wst = 2 → s.wpc = .get → s.sendQ ≠ [] → ∀ b, (gstep s "W" (.get b) x).isSome) ∧
    (s.wst = 2 → ∀ m, s.wpc = .send m → (gstep s "W" .send x).isSome) := by
  refine ⟨fun hr hmid hrq hin => ?_, fun hr hmid l rest hrq => ?_, fun hw hpc hq b => ?_, fun hw m hpc => ?_⟩
  · cases hi : s.inbound with
    | nil => exact (GStepKind.rFail (by omega) hmid hrq hi (hin.resolve_left (· hi))).isSome hx
    | cons c rest => exact (GStepKind.rRecv (by omega) hmid hrq hi).isSome hx
  · exact (GStepKind.rPut (by omega) hmid hrq).isSome hx
  · cases hs : s.sendQ with
    | nil => exact absurd hs hq
    | cons c rest =>
      cases c with
      | none => exact (GStepKind.wPill (by omega) b hpc hs).isSome hx
      | some m => exact (GStepKind.wGet (by omega) b hpc hs).isSome hx
  · exact (GStepKind.wSend (by omega) hpc).isSome hx

theorem GStepKind.reader_runs {s s' : DState} {op : OpClass} {x : String} {effs : List GEff}
    (h : GStepKind s x "R" op s' effs) : s.rst = 1 ∨ s.readerRuns := by
  generalize hR : "R" = tid at h
  cases h with
  | rStart h => exact .inl h
  | rRecv hr | rFail hr | rPut hr | rQuit hr | rJoin hr | rPoolWait hr | rLock hr | rAdd hr => exact .inr hr
  | failurePut hT | excFailurePut hT => exact absurd hR.symm hT.ne_R
  | tStart hT | tDec hT | task hT => exact absurd hR.symm hT.other.ne_R
  | lsnRead hw | lsnPut hw => exact absurd hR.symm hw.other.ne_R
  | _ => simp at hR

theorem GStepKind.writer_runs {s s' : DState} {op : OpClass} {x : String} {effs : List GEff}
    (h : GStepKind s x "W" op s' effs) :
    s.wst = 1 ∨ (s.writerRuns ∧ (s.wpc = .get ∨ ∃ m, s.wpc = .send m)) := by
  generalize hW : "W" = tid at h
  cases h with
  | wStart h => exact .inl h
  | wGet hw _ hpc | wPill hw _ hpc => exact .inr ⟨hw, .inl hpc⟩
  | wSend hw hpc | wFail hw hpc => exact .inr ⟨hw, .inr ⟨_, hpc⟩⟩
  | failurePut hT | excFailurePut hT => exact absurd hW.symm hT.ne_W
  | tStart hT | tDec hT | task hT => exact absurd hW.symm hT.other.ne_W
  | lsnRead hw | lsnPut hw => exact absurd hW.symm hw.other.ne_W
  | _ => simp at hW

/-- **what the kind of a step depends on**: not on the exit flag (which `gstep` tests first) or the ghost count, not — for
    a thread other than the reader — on the reader's thread state, and not — for a thread other than the writer, the
    reader's `join()` excepted — on the writer's. -/
theorem GStepKind.transfer {s s1 : DState} {tid : String} {op : OpClass} {x : String} {e : List GEff} (r' : Nat)
    (w' : WPc) (n' : Nat) (x' : Bool) (hR : tid = "R" → r' = s.rst) (hJ : op = .join → w' = s.wpc)
    (hW : tid = "W" → w' = s.wpc) (h : GStepKind s x tid op s1 e) :
    ∃ s1' e', GStepKind { s with rst := r', wpc := w', nio := n', exited := x' } x tid op s1' e' := by
  have hcl : ∀ {w : Who}, Caller s tid x w → Caller { s with rst := r', wpc := w', nio := n', exited := x' } tid x w :=
      fun hw => by
    cases hw with
    | own hT ht hpc => exact .own hT ht hpc
    | foreign hT ht hpc hne => exact .foreign hT ht hpc hne
    | ext hT hnT hE he => exact .ext hT hnT hE he
  cases h with
  | deliver c he => exact ⟨_, _, .deliver c he⟩
  | endOfInput => exact ⟨_, _, .endOfInput⟩
  | mStart h => exact ⟨_, _, .mStart h⟩
  | mPut h => exact ⟨_, _, .mPut h⟩
  | rStart h => obtain rfl := hR rfl; exact ⟨_, _, .rStart h⟩
  | rRecv hr hmid hrq hin => obtain rfl := hR rfl; exact ⟨_, _, .rRecv hr hmid hrq hin⟩
  | rFail hr hmid hrq hin he => obtain rfl := hR rfl; exact ⟨_, _, .rFail hr hmid hrq hin he⟩
  | rPut hr hmid hrq => obtain rfl := hR rfl; exact ⟨_, _, .rPut hr hmid hrq⟩
  | rQuit hr hmid hrq => obtain rfl := hR rfl; exact ⟨_, _, .rQuit hr hmid hrq⟩
  | rJoin hr hmid hrq hc hw => obtain rfl := hR rfl; obtain rfl := hJ rfl; exact ⟨_, _, .rJoin hr hmid hrq hc hw⟩
  | rPoolWait hr hmid hrq hc hrun hq => obtain rfl := hR rfl; exact ⟨_, _, .rPoolWait hr hmid hrq hc hrun hq⟩
  | rLock hr hmid hrq hi => obtain rfl := hR rfl; exact ⟨_, _, .rLock hr hmid hrq hi⟩
  | rAdd hr hmid hi => obtain rfl := hR rfl; exact ⟨_, _, .rAdd hr hmid hi⟩
  | wStart h => exact ⟨_, _, .wStart h⟩
  | wGet hw b hpc hq => obtain rfl := hW rfl; exact ⟨_, _, .wGet (s := { s with rst := r', nio := n', exited := x' }) hw b hpc hq⟩
  | wPill hw b hpc hq => obtain rfl := hW rfl; exact ⟨_, _, .wPill (s := { s with rst := r', nio := n', exited := x' }) hw b hpc hq⟩
  | wSend hw hpc => obtain rfl := hW rfl; exact ⟨_, _, .wSend hw hpc⟩
  | wFail hw hpc => obtain rfl := hW rfl; exact ⟨_, _, .wFail hw hpc⟩
  | failurePut hT msg => exact ⟨_, _, .failurePut hT msg⟩
  | excFailurePut hT msg hp => exact ⟨_, _, .excFailurePut hT msg hp⟩
  | tStart hT ht hpc hq hrun hi => exact ⟨_, _, .tStart hT ht hpc hq hrun hi⟩
  | tDec hT ht hpc hi => exact ⟨_, _, .tDec hT ht hpc hi⟩
  | task hT ht ha hi => exact ⟨_, _, .task hT ht ha hi⟩
  | lsnRead hw kind hi => exact ⟨_, _, .lsnRead (hcl hw) kind hi⟩
  | lsnPut hw hi => exact ⟨_, _, .lsnPut (hcl hw) hi⟩

theorem gstep_isSome_congr (s : DState) (r' : Nat) (w' : WPc) (n' : Nat) (x' : Bool) (tid : String) (op : OpClass)
    (x : String) (hx : x' = s.exited) (hR : tid = "R" → r' = s.rst) (hJ : op = .join → w' = s.wpc)
    (hW : tid = "W" → w' = s.wpc) :
    (gstep { s with rst := r', wpc := w', nio := n', exited := x' } tid op x).isSome = (gstep s tid op x).isSome := by
  subst hx
  rw [Bool.eq_iff_iff, gstep_isSome_iff, gstep_isSome_iff]
  refine and_congr_right' ⟨fun ⟨_, _, hk⟩ => ?_, fun ⟨_, _, hk⟩ => hk.transfer r' w' n' s.exited hR hJ hW⟩
  -- the way back: `s` is the other state with its variables put back
  have := hk.transfer s.rst s.wpc s.nio s.exited (fun h => (hR h).symm) (fun h => (hJ h).symm) (fun h => (hW h).symm)
  exact this

end Ari.Conc
