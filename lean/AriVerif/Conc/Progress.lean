import AriVerif.Conc.MetaFault
import AriVerif.Conc.DataFault
/-
  Conc/Progress.lean — no deadlock in the whole-server models: as long as the process has not exited, outstanding work
  always has an enabled library step, unless it is waiting for the adapter (a task inside an adapter call: the adapter
  decides when to return) — for every reachable state, i.e. every schedule.  This is the safety half of "every request is
  answered" (C01 / C04) and of "a blocked adapter call does not stop the library" (C18): under any fair scheduler the work
  gets done.
-/
namespace Ari.Conc

/-- outstanding work in the Metadata server: an unfinished pool task, an action the reader still has to perform, unread
    bytes (with a reader that is still there), a message the writer still has to take or write. -/
def MWork (s : MState) : Prop :=
  (∃ t ∈ s.pool.tasks, t.pc.isDone = false) ∨
  (s.rthr = 2 ∧ (s.rq ≠ [] ∨ s.inbound ≠ [])) ∨
  (s.wthr = 2 ∧ (s.wsend.isSome = true ∨ s.sendQ ≠ []))

theorem mreach_rqHead {cfg : SrvCfg} {n : Nat} {s : MState} {log : List String} (h : MReach cfg n s log) :
    RqHead s.rq := by
  induction h with
  | init => simp [MInit, RqHead]
  | @step s s' log env tid op effs hr hs ih =>
    have inv' := mreach_closeInv (hr.step hs)
    cases mstep_kind hs with
    | rRecv _ _ _ hrun | rPut _ _ hrun => obtain ⟨_, hl⟩ := hrun.spec; exact hl.head
    | rQuit =>
      obtain ⟨r, hr'⟩ := inv'.rqShape.2.1 (.inl rfl)
      rw [hr']; trivial
    | rPoolWait => trivial
    | _ => exact ih

/-- **a blocked adapter call does not stop the reader or the writer (Metadata).** Whatever the pool tasks are doing: a
    running reader with something to read or to do has an enabled step, unless it is waiting inside `close()`; a running
    writer with something to take or to write has an enabled step. -/
theorem mreach_io_threads_live {cfg : SrvCfg} {n : Nat} {s : MState} {log : List String} (h : MReach cfg n s log)
    (hx : s.exited = false) (env : InitEnv) :
    (s.rthr = 2 → (s.rq ≠ [] ∨ s.inbound ≠ []) → s.cpc = 0 → ∃ op, (mstep s env "R" op).isSome) ∧
    (s.wthr = 2 → (s.wsend.isSome = true ∨ s.sendQ ≠ []) → ∃ op, (mstep s env "W" op).isSome) := by
  refine ⟨fun hr hw hc => ?_, fun hwt hw => mstep_writer_live s env hx hwt hw⟩
  refine mstep_reader_live s env hx hr (mreach_rqHead h) hw ?_
  intro rest hrq
  have := (mreach_closeInv h).rqShape.1 hc
  rw [hrq] at this
  exact this
/-- **no deadlock (Metadata).** In every reachable state of a server with at least one pool worker that has not exited:
    if work is outstanding, some step of a library thread (reader, writer, a pool thread) is enabled, or some pool task is
    inside an adapter call. -/
theorem mreach_progress {cfg : SrvCfg} {n : Nat} {s : MState} {log : List String} (h : MReach cfg n s log)
    (hn : 1 ≤ n) (hx : s.exited = false) (hw : MWork s) (env : InitEnv) :
    (∃ tid op, (mstep s env tid op).isSome ∧ (tid = "R" ∨ tid = "W" ∨ tid.startsWith "T" = true)) ∨
    (∃ (k : Nat) (t : PTask) (c : Call), s.pool.tasks[k]? = some t ∧ t.pc = .inCall c) := by
  have inv := mreach_closeInv h
  have pinv := mreach_pinv h
  rcases hw with hw | ⟨hr, hw⟩ | ⟨hwt, hw⟩
  · -- an unfinished pool task
    obtain ⟨acts, hacts⟩ := mreach_pool h
    have hnn : s.pool.n = n := prun_n acts _ _ hacts
    rcases pinv.progress (by omega) hw with ⟨k, hk | hk | hk⟩ | hk
    · exact .inl (mstep_pool_isSome (op := .taskStart) hx rfl hk)
    · exact .inl (mstep_pool_isSome (op := .adapterBegin) hx rfl hk)
    · exact .inl (mstep_pool_isSome (op := .put) hx rfl hk)
    · exact .inr hk
  · -- the reader has something to do
    by_cases hc : s.cpc = 1 ∨ s.cpc = 2
    · exact c20s_close_progress h hn hc hx env
    · have hle := inv.cpcLe
      have h3 := inv.rEnded.2
      obtain ⟨op, hop⟩ := (mreach_io_threads_live h hx env).1 hr hw (by omega)
      exact .inl ⟨"R", op, hop, .inl rfl⟩
  · -- the writer has something to do
    obtain ⟨op, hop⟩ := mstep_writer_live s env hx hwt hw
    exact .inl ⟨"W", op, hop, .inr (.inl rfl)⟩

/-- outstanding work in the Data server (pool side): a pool task whose dequeuer instance has not finished. -/
def DWork (s : DState) : Prop := ∃ t ∈ s.tasks, ((getItem s t.1).insts t.2).pc ≠ .done

theorem gstep_running_live {s : DState} (pinv : DPoolInv s) (hx : s.exited = false) {idx : Nat} {x : String} {k : Nat}
    (ht : s.tasks[idx]? = some (x, k)) (hc : tcls s (x, k) = 1) :
    (∃ op z, (gstep s (tname idx) op z).isSome = true) ∨ ∃ m tk, ((getItem s x).insts k).pc = .inCall m tk := by
  have hen := istep_inst_isSome (pinv.tasksLt (x, k) (List.mem_of_getElem? ht))
  have ht' : s.tasks[idx + 1 - 1]? = some (x, k) := ht
  -- a body step: the operation class, then the step the item machine offers
  have body : ∀ (op : OpClass) {a : IAct}, taskAct k op ((getItem s x).insts k).pc = some a →
      (istep (getItem s x) a).isSome = true → ∃ op z, (gstep s (tname idx) op z).isSome = true := by
    intro op a ha hs
    obtain ⟨p, hp⟩ := Option.isSome_iff_exists.1 hs
    exact ⟨op, "", (GStepKind.task (isTask_tname idx) ht' ha hp).isSome hx⟩
  unfold tcls at hc
  cases hpc : ((getItem s x).insts k).pc with
  | inPool | done => simp [hpc, ipcCls] at hc
  | inCall m tk => exact .inr ⟨m, tk, rfl⟩
  | atLoop => rw [hpc] at hen; exact .inl (body .itemLock (by rw [hpc]; rfl) hen)
  | put t line next => rw [hpc] at hen; exact .inl (body .put (by rw [hpc]; rfl) hen)
  | callBegin m t => rw [hpc] at hen; exact .inl (body .adapterBegin (by rw [hpc]; rfl) hen)
  | setCode t | eosRead t | clearCode t => rw [hpc] at hen; exact .inl (body .mgrLock (by rw [hpc]; rfl) hen)
  | dec =>
    rw [hpc] at hen
    obtain ⟨p, hp⟩ := Option.isSome_iff_exists.1 hen
    exact .inl ⟨.mgrLock, "", (GStepKind.tDec (isTask_tname idx) ht' hpc hp).isSome hx⟩

/-- **no deadlock (Data, pool side).** In every reachable state (any I/O-handler configuration) of a server with at least
    one pool worker that has not exited: if some pool task is unfinished, then some pool thread has an enabled step, or
    some dequeuer instance is inside an adapter call (`pc = .inCall …`), possibly with a listener enqueue of its own still
    pending. -/
theorem greach_pool_progress {n : Nat} {u p : Option String} {hd : Option Bool} {s : DState} {log : List String}
    (h : GReachH n u p hd s log) (hn : 1 ≤ n) (hx : s.exited = false) (hw : DWork s) :
    (∃ tid op x, (gstep s tid op x).isSome ∧ tid.startsWith "T" = true) ∨
    (∃ t ∈ s.tasks, ∃ m tk, ((getItem s t.1).insts t.2).pc = .inCall m tk) := by
  have pinv := greach_dpoolInv h
  have qinv := greach_dqInv h
  have hN := greach_poolN h
  by_cases hrun : s.running = 0
  · -- nothing running: the unfinished task is waiting in the queue, and a free worker takes the head of the queue
    obtain ⟨t, htm, hnd⟩ := hw
    cases hwq : s.workQ with
    | nil => exact absurd (pinv.idle_done hrun hwq t htm) hnd
    | cons m tl =>
      have hmw : m ∈ s.workQ := by rw [hwq]; exact List.mem_cons_self
      obtain ⟨⟨x, k⟩, ht', hc'⟩ := qinv.unstarted m hmw
      have hm1 := pinv.workQPos m hmw
      obtain ⟨m', rfl⟩ : ∃ m', m = m' + 1 := ⟨m - 1, by omega⟩
      have hk : k < (getItem s x).ninst := pinv.tasksLt (x, k) (List.mem_of_getElem? ht')
      have hpc : ((getItem s x).insts k).pc = .inPool := ipcCls_zero hc'
      have hen := istep_inst_isSome hk
      rw [hpc] at hen
      obtain ⟨q, hq'⟩ := Option.isSome_iff_exists.1 hen
      refine .inl ⟨tname m', .taskStart, "", ?_, tname_startsWith m'⟩
      exact (GStepKind.tStart (isTask_tname m') ht' hpc (by rw [hwq]; rfl) (by omega) hq').isSome hx
  · -- some task is running
    have hpos : 0 < (s.tasks.filter (fun t => tcls s t == 1)).length := by
      have := pinv.running; omega
    obtain ⟨t, htm⟩ := List.exists_mem_of_length_pos hpos
    obtain ⟨htm, hact⟩ := List.mem_filter.1 htm
    obtain ⟨idx, ht⟩ := List.mem_iff_getElem?.mp htm
    obtain ⟨x, k⟩ := t
    rcases gstep_running_live pinv hx ht (by simpa using hact) with ⟨op, z, hs⟩ | ⟨m, tk, hc⟩
    · exact .inl ⟨tname idx, op, z, hs, tname_startsWith idx⟩
    · exact .inr ⟨(x, k), htm, m, tk, hc⟩

/-- the reader is between the two lock sections of a request for item `x` exactly when item `x` records a held request. -/
def RHeldInv (s : DState) : Prop := ∀ x, ((getItem s x).rheld.isSome = true ↔ s.rmid = some x)

theorem rheldInv_init (n : Nat) (u p : Option String) (h : Option Bool) :
    RHeldInv { poolN := n, user := u, password := p, ioHandler := h } := by
  intro x
  simp [getItem, IState.init]

theorem rheldInv_step {s s' : DState} {tid : String} {op : OpClass} {x : String} {effs : List GEff}
    (hi : RHeldInv s) (h : gstep s tid op x = some (s', effs)) : RHeldInv s' := by
  -- an item step that is not the reader's leaves `rheld` alone
  have keep : ∀ {y : String} {a : IAct} {i' : IState} {e : List Eff} (P : List String),
      istep (getItem s y) a = some (i', e) → a.isReader = false → RHeldInv { s.lifted y i' e with pendFal := P } := by
    intro y a i' e P his ha z
    show (getItem (s.lifted y i' e) z).rheld.isSome = true ↔ s.rmid = some z
    rw [getItem_lifted]
    split
    · next hz => subst hz; rw [istep_rheld ha his]; exact hi z
    · exact hi z
  -- while the reader is elsewhere no other item records a held request
  have other : ∀ {y z : String}, (s.rmid = none ∨ s.rmid = some y) → z ≠ y → (getItem s z).rheld.isSome = false := by
    intro y z hm hz
    cases hh : (getItem s z).rheld.isSome with
    | false => rfl
    | true =>
      -- item `z` records a held request, so the reader is at `z`
      have hz' : s.rmid = some z := (hi z).1 hh
      rcases hm with hm | hm <;> rw [hm] at hz' <;> cases hz'
      exact absurd rfl hz
  cases gstep_kind h with
  | tStart _ _ _ _ _ his | tDec _ _ _ his | lsnPut _ his => exact keep s.pendFal his rfl
  | task _ _ ha his => exact keep s.pendFal his (by unfold taskAct at ha; split at ha <;> cases ha <;> rfl)
  | lsnRead _ _ his => exact keep _ his rfl
  | @rLock y t rest i' e _ hmid _ his =>
    intro z
    show (getItem (s.lifted y i' e) z).rheld.isSome = true ↔ (if i'.rheld.isSome then some y else none) = some z
    rw [getItem_lifted]
    split
    · next hz => subst hz; split <;> simp [*]
    · next hz => rw [other (.inl hmid) hz]; split <;> simp [Ne.symm hz]
  | @rAdd y i' e _ hmid his =>
    intro z
    show (getItem (s.lifted y i' e) z).rheld.isSome = true ↔ none = some z
    rw [getItem_lifted]
    split
    · rw [istep_addTask_rheld his]; simp
    · next hz => rw [other (.inr hmid) hz]; simp
  | _ => exact hi

theorem greach_rheldInv {n : Nat} {u p : Option String} {ioh : Option Bool} {s : DState} {log : List String}
    (h : GReachH n u p ioh s log) : RHeldInv s := by
  induction h with
  | init => exact rheldInv_init n u p ioh
  | step _ hs _ ih => exact rheldInv_step ih hs

/-- **a blocked adapter call does not stop the reader or the writer (Data).** -/
theorem greach_io_threads_live {n : Nat} {u p : Option String} {hd : Option Bool} {s : DState} {log : List String}
    (h : GReachH n u p hd s log) (hx : s.exited = false) (x : String) :
    (s.rst = 2 → (s.rmid.isSome = true ∨ s.rq ≠ [] ∨ s.inbound ≠ []) → s.cpc = 0 → ∃ op y, (gstep s "R" op y).isSome) ∧
    (s.wst = 2 → (s.wpc ≠ .get ∨ s.sendQ ≠ []) → s.wpc ≠ .stopped → s.wpc ≠ .failed → ∃ op, (gstep s "W" op x).isSome) := by
  have rinv := greach_rheldInv h
  have cinv := greach_dcloseInv h
  obtain ⟨hrecv, hput, hget, hsend⟩ := gstep_io_enabled s x hx
  refine ⟨fun hr hw hc => ?_, fun hwt hw hs hf => ?_⟩
  · have hr' : s.readerRuns := by omega
    cases hmid : s.rmid with
    | some y =>
      -- between the two lock sections: the second is enabled because item `y` records the held request
      obtain ⟨p, hp⟩ := Option.isSome_iff_exists.1 (istep_addTask_isSome _ ((rinv y).2 hmid))
      exact ⟨.itemLock, "", (GStepKind.rAdd hr' hmid hp).isSome hx⟩
    | none =>
      cases hrq : s.rq with
      | nil =>
        refine ⟨.recv, x, hrecv hr hmid hrq (.inl ?_)⟩
        rcases hw with hw | hw | hw
        · rw [hmid] at hw; cases hw
        · exact absurd hrq hw
        · exact hw
      | cons a rest =>
        cases a with
        | reply l => exact ⟨.put, x, hput hr hmid l rest hrq⟩
        | quit => exact ⟨.put, "", (GStepKind.rQuit hr' hmid hrq).isSome hx⟩
        | poolShutdown =>
          have := cinv.rqShape.1 hc
          rw [hrq] at this
          exact this.elim
        | req y t =>
          -- the first lock section is enabled because no item records a held request while the reader is at none
          have hn : (getItem s y).rheld = none := by
            cases hh : (getItem s y).rheld with
            | none => rfl
            | some v =>
              have := (rinv y).1 (by rw [hh]; rfl)
              rw [hmid] at this; cases this
          obtain ⟨p, hp⟩ := Option.isSome_iff_exists.1 (istep_lockMgr_isSome _ t hn)
          exact ⟨.mgrLock, "", (GStepKind.rLock hr' hmid hrq hp).isSome hx⟩
  · cases hwpc : s.wpc with
    | get => exact ⟨_, hget hwt hwpc (hw.resolve_left (· hwpc)) false⟩
    | send m => exact ⟨_, hsend hwt m hwpc⟩
    | stopped => exact absurd hwpc hs
    | failed => exact absurd hwpc hf

end Ari.Conc
