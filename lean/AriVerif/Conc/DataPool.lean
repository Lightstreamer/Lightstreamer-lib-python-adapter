import AriVerif.Conc.DataFifo
/-
  Conc/DataPool.lean — the pool's bookkeeping on the whole-Data-server model (`Conc/Data.lean`): `running` counts the pool
  tasks (dequeuer instances) a worker has taken and that have not finished, and the work queue holds exactly the submitted
  tasks no worker has taken yet, each once and in submission order, in every reachable state.  The argument is about lists
  (`FifoPool`, over the list of the tasks' classes); the model enters through where each task is (`tcls`).
-/
namespace Ari.Conc

/-- item actions that neither start nor end a pool task nor create one: the loop body of a dequeuer instance, the reader's
    first lock section, listener calls. -/
def IAct.neutral : IAct → Bool
  | .addTask => false
  | .start _ => false
  | .dec _ => false
  | _ => true

theorem taskAct_neutral {k : Nat} {op : OpClass} {pc : Pc} {a : IAct} (h : taskAct k op pc = some a) :
    a.neutral = true := by
  unfold taskAct at h
  split at h <;> cases h <;> rfl

/-- where a dequeuer instance is with respect to the pool: 0 = submitted, not yet taken by a worker; 1 = running on a
    worker; 2 = finished. -/
def ipcCls : Pc → Nat
  | .inPool => 0
  | .done => 2
  | _ => 1

/-- the continuation of a `put` is inside the loop body (so a `put` never ends the pool task). -/
def pcGood : Pc → Bool
  | .put _ _ .atLoop => true
  | .put _ _ (.clearCode _) => true
  | .put _ _ (.callBegin _ _) => true
  | .put _ _ _ => false
  | _ => true

/-- every dequeuer instance of the item has a well-continued program counter (`pcGood`); holds in every item state the server
    model reaches (`DPoolInv.good`), whatever the request history. -/
def IGood (i : IState) : Prop := ∀ k, pcGood (i.insts k).pc = true

theorem igood_init (x : String) : IGood (IState.init x) := fun _ => rfl

theorem pcGood_put_next {t : Task} {l : String} {next : Pc} (h : pcGood (.put t l next) = true) :
    pcGood next = true ∧ ipcCls next = 1 := by
  cases next <;> simp [pcGood, ipcCls] at h ⊢

theorem igood_upd {i : IState} (hg : IGood i) {k : Nat} {x : Inst} (hx : pcGood x.pc = true) (j : Nat) :
    pcGood (upd i.insts k x j).pc = true := by
  unfold upd; split
  · exact hx
  · exact hg j

theorem istep_good {i i' : IState} {a : IAct} {e : List Eff} (hg : IGood i) (h : istep i a = some (i', e)) :
    IGood i' := by
  cases IStep.of_istep h
  case put_loop k _ _ _ hpc | put_clear k _ _ _ _ hpc | put_other k _ _ _ _ hpc _ _ =>
    have hn := (pcGood_put_next (hpc ▸ hg k)).1
    simp only [IGood, setInst, addLog, addOut, finish, replied]
    exact igood_upd hg hn
  -- the rest: `insts` untouched, or instance `k` gets a literal pc (`rfl`), its old pc (`lsnRead_inst` / `lsnPut_inst`),
  -- or one of two literal pcs (`callEnd_snap_ret`)
  all_goals
    simp only [IGood, setInst, setMgr, addLog, addOut, finish]
    first | exact hg | exact igood_upd hg (by first | rfl | exact hg _ | (cases ‹Bool› <;> rfl))

theorem istep_ninst_le {i i' : IState} {a : IAct} {e : List Eff} (h : istep i a = some (i', e)) :
    i.ninst ≤ i'.ninst := by
  cases IStep.of_istep h
  all_goals simp [setInst, setMgr, addLog, addOut, finish, replied]

theorem ipcCls_upd {f : Nat → Inst} {k : Nat} {x : Inst} (hx : ipcCls x.pc = ipcCls (f k).pc) (j : Nat) :
    ipcCls (upd f k x j).pc = ipcCls (f j).pc := by
  unfold upd; split
  · subst_vars; exact hx
  · rfl

theorem istep_neutral {i i' : IState} {a : IAct} {e : List Eff} (hg : IGood i) (ha : a.neutral = true)
    (h : istep i a = some (i', e)) :
    i'.ninst = i.ninst ∧ (∀ j, ipcCls (i'.insts j).pc = ipcCls (i.insts j).pc) ∧ isubs e = [] := by
  cases IStep.of_istep h
  case addTask_running | addTask_submit | start | dec_remove | dec_keep => cases ha
  case put_loop k _ _ _ hpc | put_clear k _ _ _ _ hpc | put_other k _ _ _ _ hpc _ _ =>
    have hn := (pcGood_put_next (hpc ▸ hg k)).2
    refine ⟨by simp [setInst, addLog, addOut, finish, replied], fun j => ?_, rfl⟩
    simp only [setInst, addLog, addOut, finish, replied]
    exact ipcCls_upd (by rw [hpc]; exact hn) j
  -- the rest: `insts` untouched (closed by `simp only`), or instance `k` goes from a class-1 pc (`hpc`) to a class-1 pc
  -- (`split`: the two continuations of `callEnd_snap_ret`)
  all_goals
    refine ⟨by simp [setInst, setMgr, addLog, addOut, finish], fun j => ?_, rfl⟩
    simp only [setInst, setMgr, addLog, addOut, finish] <;>
      exact ipcCls_upd (by first | (simp only [*, ipcCls]; done) | (split <;> simp only [*, ipcCls])) j

theorem istep_start {i i' : IState} {k : Nat} {e : List Eff} (h : istep i (.start k) = some (i', e)) :
    k < i.ninst ∧ ipcCls (i.insts k).pc = 0 ∧ ipcCls (i'.insts k).pc = 1 ∧
    (∀ j, j ≠ k → i'.insts j = i.insts j) ∧ i'.ninst = i.ninst ∧ isubs e = [] := by
  cases IStep.of_istep h with
  | start hk hpc => simp +contextual [setInst, upd, ipcCls, isubs, hk, hpc]

theorem istep_dec {i i' : IState} {k : Nat} {e : List Eff} (h : istep i (.dec k) = some (i', e)) :
    k < i.ninst ∧ ipcCls (i.insts k).pc = 1 ∧ ipcCls (i'.insts k).pc = 2 ∧
    (∀ j, j ≠ k → i'.insts j = i.insts j) ∧ i'.ninst = i.ninst ∧ isubs e = [] := by
  cases IStep.of_istep h with
  | dec_remove hk hpc | dec_keep hk hpc => simp +contextual [setInst, setMgr, addLog, upd, ipcCls, isubs, hk, hpc]

theorem istep_addTask {i i' : IState} {e : List Eff} (h : istep i .addTask = some (i', e)) :
    (i'.ninst = i.ninst ∧ (∀ j, i'.insts j = i.insts j) ∧ isubs e = []) ∨
    (isubs e = [i.ninst] ∧ i'.ninst = i.ninst + 1 ∧ ipcCls (i'.insts i.ninst).pc = 0 ∧
      ∀ j, j ≠ i.ninst → i'.insts j = i.insts j) := by
  cases IStep.of_istep h with
  | addTask_running => exact .inl (by simp [setMgr, isubs])
  | addTask_submit => exact .inr (by simp +contextual [setMgr, addLog, upd, ipcCls, isubs])

/-- the bookkeeping of a FIFO pool: `cs` says, in submission order, where each task is (0 = submitted, 1 = running on a
    worker, 2 = finished).  Workers take the tasks in submission order: the first `k` have been taken, and the work queue
    holds the numbers (from 1) of the others, in order; `running` counts the tasks a worker has taken and that have not
    finished. -/
structure FifoPool (cs : List Nat) (workQ : List Nat) (running k : Nat) : Prop where
  running : running = cs.count 1
  taken : k ≤ cs.length
  workQ : workQ = List.range' (k + 1) (cs.length - k)
  waiting : ∀ i c, cs[i]? = some c → (c = 0 ↔ k ≤ i)

namespace FifoPool
variable {cs workQ : List Nat} {running k : Nat}

theorem submit (h : FifoPool cs workQ running k) : FifoPool (cs ++ [0]) (workQ ++ [cs.length + 1]) running k := by
  have hk := h.taken
  refine ⟨by simp [h.running], by simp; omega, ?_,
    forall_getElem?_concat h.waiting ⟨fun _ => hk, fun _ => rfl⟩⟩
  rw [h.workQ, List.length_append, List.length_singleton, show cs.length + 1 - k = cs.length - k + 1 by omega,
    List.range'_concat]
  congr 2; omega

theorem start (h : FifoPool cs workQ running k) {n : Nat} (hq : workQ.head? = some n) :
    n = k + 1 ∧ cs[k]? = some 0 ∧ FifoPool (cs.set k 1) workQ.tail (running + 1) (k + 1) := by
  rw [h.workQ, List.head?_range'] at hq
  split at hq
  · cases hq
  have hk : k < cs.length := by omega
  have h0 : cs[k]? = some 0 := by
    rw [List.getElem?_eq_getElem hk, (h.waiting k _ (List.getElem?_eq_getElem hk)).2 (Nat.le_refl _)]
  refine ⟨(Option.some.inj hq).symm, h0, ?_, by simp; omega, ?_,
    forall_getElem?_set hk (by omega) fun i c hik hi => by rw [h.waiting i c hi]; omega⟩
  · rw [List.count_set hk, ← h.running, (List.getElem?_eq_some_iff.mp h0).2]; simp
  · rw [h.workQ, List.tail_range', List.length_set]; congr 1

theorem finish (h : FifoPool cs workQ running k) {i : Nat} (h1 : cs[i]? = some 1) :
    FifoPool (cs.set i 2) workQ (running - 1) k := by
  obtain ⟨hi, h1'⟩ := List.getElem?_eq_some_iff.mp h1
  have hw := h.waiting i 1 h1
  refine ⟨?_, by simp [h.taken], by rw [h.workQ, List.length_set],
    forall_getElem?_set hi (by omega) fun j c _ hj => h.waiting j c hj⟩
  rw [List.count_set hi, ← h.running, h1']; simp

theorem mem_workQ (h : FifoPool cs workQ running k) {m : Nat} : m ∈ workQ ↔ k < m ∧ m ≤ cs.length := by
  have := h.taken
  rw [h.workQ, List.mem_range'_1]; omega

end FifoPool

/-- where pool task `t` = (item, instance index) is: 0 = submitted, 1 = running on a worker, 2 = finished. -/
def tcls (s : DState) (t : String × Nat) : Nat := ipcCls ((getItem s t.1).insts t.2).pc

/-- **the pool's bookkeeping on the Data server model**: `running` counts the pool tasks that a worker has taken and that
    have not finished; every submitted task that no worker has taken yet is in the work queue. -/
structure DPoolInv (s : DState) : Prop where
  /-- (item level) the continuation of a `put` is inside the dequeuer's loop body -/
  good : ∀ x, IGood (getItem s x)
  /-- a pool task is an existing dequeuer instance of its item … -/
  tasksLt : ∀ t ∈ s.tasks, t.2 < (getItem s t.1).ninst
  /-- … and no instance is submitted twice -/
  nodup : s.tasks.Nodup
  /-- `running` = number of pool tasks whose instance is neither waiting in the pool nor done -/
  running : s.running = (s.tasks.filter (fun t => tcls s t == 1)).length
  /-- the not yet started tasks are in the work queue (under their 1-based task numbers) -/
  queued : ∀ idx t, s.tasks[idx]? = some t → tcls s t = 0 → idx + 1 ∈ s.workQ
  workQPos : ∀ m ∈ s.workQ, 1 ≤ m

/-- every entry of the work queue is the number of an existing pool task that no worker has taken yet, and no task is
    queued twice. -/
structure DQInv (s : DState) : Prop where
  nodup : s.workQ.Nodup
  unstarted : ∀ m ∈ s.workQ, ∃ t, s.tasks[m - 1]? = some t ∧ tcls s t = 0

theorem tcls_congr {s s' : DState} (h : s'.items = s.items) (t : String × Nat) : tcls s' t = tcls s t := by
  unfold tcls; rw [getItem_congr h]

theorem tcls_lifted (s : DState) (y : String) (i' : IState) (e : List Eff) (t : String × Nat) :
    tcls (s.lifted y i' e) t = if t.1 = y then ipcCls (i'.insts t.2).pc else tcls s t := by
  unfold tcls; rw [getItem_lifted]; split <;> rfl

/-- the invariant that is inductive: the two facts about the items, no instance submitted twice, and the pool's
    bookkeeping (`FifoPool`) of the tasks' classes.  It says more than `DPoolInv` and `DQInv` together (`DPoolFifo.inv`): the
    work queue is in submission order. -/
structure DPoolFifo (s : DState) : Prop where
  good : ∀ x, IGood (getItem s x)
  tasksLt : ∀ t ∈ s.tasks, t.2 < (getItem s t.1).ninst
  nodup : s.tasks.Nodup
  pool : ∃ k, FifoPool (s.tasks.map (tcls s)) s.workQ s.running k

theorem DPoolFifo.inv {s : DState} (h : DPoolFifo s) : DPoolInv s ∧ DQInv s := by
  obtain ⟨k, hp⟩ := h.pool
  have hlen : (s.tasks.map (tcls s)).length = s.tasks.length := List.length_map ..
  -- the class of the task at a position, as `FifoPool` sees it
  have cls : ∀ {i : Nat} {t : String × Nat}, s.tasks[i]? = some t → (tcls s t = 0 ↔ k ≤ i) := fun ht =>
    hp.waiting _ _ (by rw [List.getElem?_map, ht]; rfl)
  refine ⟨⟨h.good, h.tasksLt, h.nodup, ?_, fun idx t ht h0 => ?_, fun m hm => ?_⟩, ⟨?_, fun m hm => ?_⟩⟩
  · rw [hp.running, List.count_eq_countP, List.countP_map, List.countP_eq_length_filter]; rfl
  · have := (List.getElem?_eq_some_iff.mp ht).1
    have := (cls ht).1 h0
    exact hp.mem_workQ.2 (by omega)
  · have := hp.mem_workQ.1 hm; omega
  · exact hp.workQ ▸ List.nodup_range' 1
  · have hm' := hp.mem_workQ.1 hm
    have hlt : m - 1 < s.tasks.length := by omega
    exact ⟨_, List.getElem?_eq_getElem hlt, (cls (List.getElem?_eq_getElem hlt)).2 (by omega)⟩

theorem DPoolFifo.frame {s s' : DState} (hi : DPoolFifo s) (h : s'.items = s.items)
    (ht : s'.tasks = s.tasks) (hr : s'.running = s.running) (hq : s'.workQ = s.workQ) : DPoolFifo s' := by
  refine ⟨fun x => by rw [getItem_congr h]; exact hi.good x, fun t htm => ?_, ht ▸ hi.nodup, ?_⟩
  · rw [getItem_congr h]; exact hi.tasksLt t (ht ▸ htm)
  · rw [hr, hq, ht, List.map_congr_left fun t _ => tcls_congr h t]; exact hi.pool

theorem dpoolFifo_init (n : Nat) (u p : Option String) (h : Option Bool) :
    DPoolFifo { poolN := n, user := u, password := p, ioHandler := h } :=
  ⟨fun x => igood_init x, by simp, by simp, 0, rfl, Nat.le_refl _, rfl, fun i c h => by cases h⟩

theorem DPoolFifo.item {s : DState} {y : String} {a : IAct} {i' : IState} {e : List Eff} (hp : DPoolFifo s)
    (his : istep (getItem s y) a = some (i', e)) :
    (∀ z, IGood (getItem (s.lifted y i' e) z)) ∧ (∀ t ∈ s.tasks, t.2 < (getItem (s.lifted y i' e) t.1).ninst) := by
  refine ⟨fun z => ?_, fun t ht => ?_⟩ <;> rw [getItem_lifted] <;> split
  · exact istep_good (hp.good y) his
  · exact hp.good z
  · next hy => exact Nat.lt_of_lt_of_le (hy ▸ hp.tasksLt t ht) (istep_ninst_le his)
  · exact hp.tasksLt t ht

/-- the invariant after a step of item `y` that submits nothing, the work queue and the counter becoming `q` and `r`: what
    is left to show is the bookkeeping of the tasks' new classes. -/
theorem DPoolFifo.lifted {s : DState} {y : String} {a : IAct} {i' : IState} {e : List Eff} (hp : DPoolFifo s)
    (his : istep (getItem s y) a = some (i', e)) (hsub : isubs e = []) {q : List Nat} {r k : Nat}
    (ok : FifoPool (s.tasks.map (tcls (s.lifted y i' e))) q r k) :
    DPoolFifo ({ s with workQ := q, running := r }.lifted y i' e) := by
  have ht : ({ s with workQ := q, running := r }.lifted y i' e).tasks = s.tasks := by simp [DState.lifted, hsub]
  have hq : ({ s with workQ := q, running := r }.lifted y i' e).workQ = q := by simp [DState.lifted, hsub]
  refine ⟨(hp.item his).1, fun t htm => (hp.item his).2 t (ht ▸ htm), by rw [ht]; exact hp.nodup, k, ?_⟩
  rw [ht, hq]
  exact ok

theorem dpoolFifo_step {s s' : DState} {tid : String} {op : OpClass} {x : String} {effs : List GEff}
    (hp : DPoolFifo s) (h : gstep s tid op x = some (s', effs)) : DPoolFifo s' := by
  obtain ⟨k0, ok⟩ := hp.pool
  -- after a step of item `y` that leaves its instances other than `k` where they are, only the task (y, k), if there is one,
  -- has changed class
  have other : ∀ {y : String} {i' : IState} {e : List Eff} {k : Nat},
      (∀ j, j ≠ k → ipcCls (i'.insts j).pc = ipcCls ((getItem s y).insts j).pc) →
      ∀ t, t ≠ (y, k) → tcls (s.lifted y i' e) t = tcls s t := by
    intro y i' e k hk t hne
    rw [tcls_lifted]; split
    · next hy => rw [hk t.2 (fun h2 => hne (Prod.ext hy h2)), ← hy]; rfl
    · rfl
  have clss : ∀ {y : String} {i' : IState} {e : List Eff} {k i : Nat},
      (∀ j, j ≠ k → ipcCls (i'.insts j).pc = ipcCls ((getItem s y).insts j).pc) → s.tasks[i]? = some (y, k) →
      s.tasks.map (tcls (s.lifted y i' e)) = (s.tasks.map (tcls s)).set i (ipcCls (i'.insts k).pc) := by
    intro y i' e k i hk hi
    rw [map_eq_set hp.nodup hi fun t _ => other hk t, tcls_lifted, if_pos rfl]
  -- an item step that moves no task: the loop body, the reader's first lock section, listener calls
  have same : ∀ {y : String} {a : IAct} {i' : IState} {e : List Eff}, istep (getItem s y) a = some (i', e) →
      (∀ j, ipcCls (i'.insts j).pc = ipcCls ((getItem s y).insts j).pc) → isubs e = [] → DPoolFifo (s.lifted y i' e) := by
    intro y a i' e his hc hsub
    refine hp.lifted his hsub (q := s.workQ) (r := s.running) (k := k0) ?_
    rw [List.map_congr_left fun t _ => ?_]
    · exact ok
    · rw [tcls_lifted]; split
      · next hy => rw [hc, ← hy]; rfl
      · rfl
  cases gstep_kind h with
  | task _ _ ha his =>
    obtain ⟨-, n2, n3⟩ := istep_neutral (hp.good _) (taskAct_neutral ha) his
    exact same his n2 n3
  | lsnPut _ his =>
    obtain ⟨-, n2, n3⟩ := istep_neutral (hp.good _) rfl his
    exact same his n2 n3
  | lsnRead _ _ his | rLock _ _ _ his =>
    obtain ⟨-, n2, n3⟩ := istep_neutral (hp.good _) rfl his
    exact (same his n2 n3).frame rfl rfl rfl rfl
  | @rAdd y i' e _ _ his =>
    refine DPoolFifo.frame (s := s.lifted y i' e) ?_ rfl rfl rfl rfl
    rcases istep_addTask his with ⟨-, n2, n3⟩ | ⟨n1, n2, n3, n4⟩
    · exact same his (fun j => by rw [n2 j]) n3
    · -- the fresh instance becomes the last pool task
      have hnew : (y, (getItem s y).ninst) ∉ s.tasks := fun h => Nat.lt_irrefl _ (hp.tasksLt _ h)
      have ht : (s.lifted y i' e).tasks = s.tasks ++ [(y, (getItem s y).ninst)] := by simp [DState.lifted, n1]
      have hq : (s.lifted y i' e).workQ = s.workQ ++ [s.tasks.length + 1] := by simp [DState.lifted, n1]
      refine ⟨(hp.item his).1, fun t htm => ?_, ?_, k0, ?_⟩
      · rcases List.mem_append.1 (ht ▸ htm) with htm | htm
        · exact (hp.item his).2 t htm
        · rw [List.mem_singleton.1 htm, getItem_lifted, if_pos rfl, n2]; exact Nat.lt_succ_self _
      · rw [ht]
        exact List.nodup_append.2 ⟨hp.nodup, by simp, fun a ha b hb => by
          rw [List.mem_singleton.1 hb]; exact fun e => hnew (e ▸ ha)⟩
      · rw [ht, hq, List.map_append, List.map_singleton, tcls_lifted, if_pos rfl, n3,
          List.map_congr_left fun t htm => other (fun j hj => by rw [n4 j hj]) t fun h => hnew (h ▸ htm)]
        have := ok.submit
        rwa [List.length_map] at this
  | @tStart _ y n k i' e _ ht _ hq' _ his =>
    obtain ⟨-, -, m3, m4, -, m6⟩ := istep_start his
    obtain ⟨rfl, -, ok'⟩ := ok.start hq'
    refine hp.lifted his m6 (k := k0 + 1) ?_
    rw [clss (fun j hj => by rw [m4 j hj]) ht, m3]
    exact ok'
  | @tDec _ y n k i' e _ ht _ his =>
    obtain ⟨-, m2, m3, m4, -, m6⟩ := istep_dec his
    refine hp.lifted his m6 (q := s.workQ) (r := s.running - 1) (k := k0) ?_
    rw [clss (fun j hj => by rw [m4 j hj]) ht, m3]
    exact ok.finish (by rw [List.getElem?_map, ht]; exact congrArg some m2)
  | _ => exact hp.frame rfl rfl rfl rfl

theorem greach_dpoolFifo {n : Nat} {u p : Option String} {ioh : Option Bool} {s : DState} {log : List String}
    (h : GReachH n u p ioh s log) : DPoolFifo s := by
  induction h with
  | init => exact dpoolFifo_init n u p ioh
  | step _ hs _ ih => exact dpoolFifo_step ih hs

theorem greach_dpoolInv {n : Nat} {u p : Option String} {ioh : Option Bool} {s : DState} {log : List String}
    (h : GReachH n u p ioh s log) : DPoolInv s := (greach_dpoolFifo h).inv.1

theorem greach_dqInv {n : Nat} {u p : Option String} {ioh : Option Bool} {s : DState} {log : List String}
    (h : GReachH n u p ioh s log) : DQInv s := (greach_dpoolFifo h).inv.2

theorem gstep_poolN {s s' : DState} {tid : String} {op : OpClass} {x : String} {effs : List GEff}
    (h : gstep s tid op x = some (s', effs)) : s'.poolN = s.poolN := by
  cases gstep_kind h <;> rfl

theorem greach_poolN {n : Nat} {u p : Option String} {hd : Option Bool} {s : DState} {log : List String}
    (h : GReachH n u p hd s log) : s.poolN = n := by
  induction h with
  | init => rfl
  | step _ hs _ ih => rw [gstep_poolN hs]; exact ih

theorem DPoolInv.running_pos {s : DState} (hi : DPoolInv s) {t : String × Nat} (ht : t ∈ s.tasks)
    (hc : tcls s t = 1) : 1 ≤ s.running := by
  rw [hi.running]
  exact List.length_pos_of_mem (List.mem_filter.2 ⟨ht, by simp [hc]⟩)

theorem ipcCls_two {pc : Pc} (h : ipcCls pc = 2) : pc = .done := by
  cases pc <;> simp [ipcCls] at h ⊢

theorem ipcCls_zero {pc : Pc} (h : ipcCls pc = 0) : pc = .inPool := by
  cases pc <;> simp [ipcCls] at h ⊢

theorem DPoolInv.idle_done {s : DState} (hi : DPoolInv s) (hr : s.running = 0) (hq : s.workQ = []) :
    ∀ t ∈ s.tasks, ((getItem s t.1).insts t.2).pc = .done := by
  intro t ht
  apply ipcCls_two
  have h1 : tcls s t ≠ 1 := fun h => by have := hi.running_pos ht h; omega
  have h0 : tcls s t ≠ 0 := fun h => by
    obtain ⟨idx, hidx⟩ := List.mem_iff_getElem?.mp ht
    have := hi.queued idx t hidx h
    rw [hq] at this
    cases this
  have h2 : tcls s t ≤ 2 := by unfold tcls ipcCls; split <;> omega
  show tcls s t = 2
  omega

end Ari.Conc
