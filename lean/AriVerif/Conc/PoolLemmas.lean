import AriVerif.Conc.Pool
import AriVerif.Conc.ListLemmas
/-
  Conc/PoolLemmas.lean — the worker-pool model (`Conc.Pool`) in rule form: `advance` as a function of the task alone
  (`advance_eq`), `pstep` as an inductive relation with the exact successor (`PStep.of_pstep`, `PStep.sound`); its inductive invariant `PInv`;
  and what the invariant says about an idle and about a busy pool.
-/
namespace Ari.Conc

def pcDone : PPc → Bool | .done => true | _ => false
def pcActive : PPc → Bool | .inPool => false | .done => false | _ => true
def pcInPool : PPc → Bool | .inPool => true | _ => false

structure TaskOK (t : PTask) : Prop where
  notDone : pcDone t.pc = false → t.replied = 0 ∧ t.notified = 0
  done : pcDone t.pc = true → t.replied + t.notified = 1
  put : ∀ line, t.pc = .put line → ∃ body, taskNext t = .inr (.reply body) ∧ line = t.rid ++ "|" ++ body
  callBegin : ∀ c, t.pc = .callBegin c → taskNext t = .inl c
  inCall : ∀ c, t.pc = .inCall c → taskNext t = .inl c

theorem taskNext_of_eq {t t' : PTask} {r : Sum Call ExecResult} (h : taskNext t = r) (hm : t'.method = t.method)
    (ha : t'.args = t.args) (hg : t'.got = t.got) : taskNext t' = r := by
  unfold taskNext at h ⊢; rw [hm, ha, hg]; exact h

/-- `TaskOK` read off the pc: what it says of a task whose pc has the given shape. -/
def TaskOKAt (t : PTask) : PPc → Prop
  | .done => t.replied + t.notified = 1
  | .inPool => t.replied = 0 ∧ t.notified = 0
  | .callBegin c | .inCall c => (t.replied = 0 ∧ t.notified = 0) ∧ taskNext t = .inl c
  | .put line => (t.replied = 0 ∧ t.notified = 0) ∧
      ∃ body, taskNext t = .inr (.reply body) ∧ line = t.rid ++ "|" ++ body

theorem taskOK_iff (t : PTask) : TaskOK t ↔ TaskOKAt t t.pc := by
  constructor
  · intro ok
    cases hp : t.pc with
    | done => exact ok.done (by rw [hp]; rfl)
    | inPool => exact ok.notDone (by rw [hp]; rfl)
    | callBegin c => exact ⟨ok.notDone (by rw [hp]; rfl), ok.callBegin c hp⟩
    | inCall c => exact ⟨ok.notDone (by rw [hp]; rfl), ok.inCall c hp⟩
    | put l => exact ⟨ok.notDone (by rw [hp]; rfl), ok.put l hp⟩
  · intro h
    refine ⟨fun hd => ?_, fun hd => ?_, fun l hl => ?_, fun c hc => ?_, fun c hc => ?_⟩
    · cases hp : t.pc <;> rw [hp] at h hd <;> first | exact h | exact h.1 | cases hd
    · cases hp : t.pc <;> rw [hp] at h hd <;> first | exact h | cases hd
    · rw [hl] at h; exact h.2
    · rw [hc] at h; exact h.2
    · rw [hc] at h; exact h.2

theorem TaskOK.at {t : PTask} {pc : PPc} (ok : TaskOK t) (hp : t.pc = pc) : TaskOKAt t pc :=
  hp ▸ (taskOK_iff t).mp ok

theorem TaskOK.new (rid m : String) (args : Args) : TaskOK { rid := rid, method := m, args := args } :=
  (taskOK_iff _).mpr ⟨rfl, rfl⟩

def advTask (t : PTask) : PTask :=
  match taskNext t with
  | .inl c => { t with pc := .callBegin c }
  | .inr (.reply line) => { t with pc := .put (t.rid ++ "|" ++ line) }
  | .inr _ => { t with pc := .done, notified := t.notified + 1 }

def advEff (t : PTask) : List PEff := if pcActive (advTask t).pc then [] else [.handlerExc]

theorem advance_eq (s : PState) (k : Nat) (t : PTask) :
    advance s k t = ({ s with tasks := s.tasks.set k (advTask t),
                              running := s.running - (if pcActive (advTask t).pc then 0 else 1) }, advEff t) := by
  unfold advance advEff advTask
  cases taskNext t with
  | inl c => rfl
  | inr r => cases r <;> rfl

theorem advTask_replied (t : PTask) : (advTask t).replied = t.replied := by
  unfold advTask
  split <;> rfl

theorem advTask_key (t : PTask) :
    ((advTask t).rid, (advTask t).method, (advTask t).args) = (t.rid, t.method, t.args) := by
  unfold advTask
  split <;> rfl

theorem advTask_notInPool (t : PTask) : pcInPool (advTask t).pc = false := by
  unfold advTask
  split <;> rfl

theorem advTask_ok (t : PTask) (h : t.replied = 0 ∧ t.notified = 0) : TaskOK (advTask t) := by
  rw [taskOK_iff]
  unfold advTask
  split
  · next c hc => exact ⟨h, taskNext_of_eq hc rfl rfl rfl⟩
  · next b hc => exact ⟨h, b, taskNext_of_eq hc rfl rfl rfl, rfl⟩
  · show t.replied + (t.notified + 1) = 1; omega

theorem advEff_cases (t : PTask) : advEff t = [] ∨
    (advEff t = [.handlerExc] ∧ ∀ body, taskNext t ≠ .inr (.reply body)) := by
  unfold advEff advTask
  split
  · exact .inl rfl
  · exact .inl rfl
  · next r hne hr => exact .inr ⟨rfl, fun b hb => hne b (Sum.inr.inj (hr.symm.trans hb))⟩

inductive PStep (s : PState) : PAct → PState × List PEff → Prop
  | submit (rid m : String) (a : Args) : PStep s (.submit rid m a)
      ({ s with tasks := s.tasks ++ [{ rid := rid, method := m, args := a }], workQ := s.workQ ++ [s.tasks.length] }, [])
  | start {k : Nat} {t : PTask} (ht : s.tasks[k]? = some t) (hp : t.pc = .inPool)
      (hq : s.workQ.head? = some k) (hr : s.running < s.n) : PStep s (.start k)
      ({ s with tasks := s.tasks.set k (advTask t), workQ := s.workQ.tail, started := s.started ++ [k],
                running := s.running + 1 - (if pcActive (advTask t).pc then 0 else 1) }, advEff t)
  | callBegin {k : Nat} {t : PTask} {c : Call} (ht : s.tasks[k]? = some t) (hp : t.pc = .callBegin c) :
      PStep s (.callBegin k)
      ({ s with tasks := s.tasks.set k { t with pc := .inCall c, calls := t.calls ++ [c] } }, [.adapterBegin c])
  | callEnd {k : Nat} {t : PTask} {c : Call} (o : Outcome) (ht : s.tasks[k]? = some t) (hp : t.pc = .inCall c) :
      PStep s (.callEnd k o)
      ({ s with tasks := s.tasks.set k (advTask { t with got := t.got ++ [o] }),
                running := s.running - (if pcActive (advTask { t with got := t.got ++ [o] }).pc then 0 else 1) },
       .adapterEnd c :: advEff { t with got := t.got ++ [o] })
  | put {k : Nat} {t : PTask} {line : String} (ht : s.tasks[k]? = some t) (hp : t.pc = .put line) :
      PStep s (.put k)
      ({ s with tasks := s.tasks.set k { t with pc := .done, replied := t.replied + 1 },
                running := s.running - 1, out := s.out ++ [line] }, [.enqueue line])

theorem PStep.of_pstep {s : PState} {a : PAct} {r : PState × List PEff} (h : pstep s a = some r) : PStep s a r := by
  cases a <;> simp only [pstep, advance_eq] at h
  case submit => cases h; exact .submit ..
  -- every other action needs its task to exist and to be at the right pc
  all_goals
    split at h
    case h_2 => cases h
    split at h
    case h_2 => cases h
  · split at h <;> cases h; exact .start ‹_› ‹_› (‹_ ∧ _›).1 (‹_ ∧ _›).2
  · cases h; exact .callBegin ‹_› ‹_›
  · cases h; exact .callEnd _ ‹_› ‹_›
  · cases h; exact .put ‹_› ‹_›

theorem PStep.sound {s : PState} {a : PAct} {r : PState × List PEff} (h : PStep s a r) : pstep s a = some r := by
  cases h with
  | submit => rfl
  | start ht hp hq hr => simp only [pstep, ht, hp, hq, hr, advance_eq, and_self, if_true]
  | callBegin ht hp => simp only [pstep, ht, hp, setTask]
  | callEnd o ht hp => simp only [pstep, ht, hp, advance_eq]
  | put ht hp => simp only [pstep, ht, hp, setTask]

theorem PStep.isSome {s : PState} {a : PAct} {r : PState × List PEff} (h : PStep s a r) : (pstep s a).isSome = true := by
  rw [h.sound]; rfl

theorem PStep.n {s : PState} {a : PAct} {r : PState × List PEff} (h : PStep s a r) : r.1.n = s.n := by
  cases h <;> rfl

theorem prun_append (s : PState) (a b : List PAct) :
    prun s (a ++ b) = (prun s a).bind fun s' => prun s' b := by
  induction a generalizing s with
  | nil => simp [prun]
  | cons x a ih =>
    cases h : pstep s x with
    | none => simp [prun, h]
    | some r => obtain ⟨s', e⟩ := r; simp [prun, h, ih]

/-- what any step other than `submit` does, seen from the one task it moves. -/
structure TaskStep (s s' : PState) (k : Nat) (t0 t1 : PTask) : Prop where
  get : s.tasks[k]? = some t0
  tasks : s'.tasks = s.tasks.set k t1
  n : s'.n = s.n
  ok : TaskOK t0 → TaskOK t1
  running : s'.running = s.running + (if pcActive t1.pc then 1 else 0) - (if pcActive t0.pc then 1 else 0)
  bound : s.running ≤ s.n → s'.running ≤ s.n
  out : s'.out.length + t0.replied = s.out.length + t1.replied
  notInPool : pcInPool t1.pc = false
  fifo : (pcInPool t0.pc = true ∧ s.workQ.head? = some k ∧ s'.workQ = s.workQ.tail ∧ s'.started = s.started ++ [k]) ∨
         (pcInPool t0.pc = false ∧ s'.workQ = s.workQ ∧ s'.started = s.started)

structure PInv (s : PState) : Prop where
  ok : ∀ (k : Nat) (t : PTask), s.tasks[k]? = some t → TaskOK t
  running : s.running = (s.tasks.filter (fun t => pcActive t.pc)).length
  bound : s.running ≤ s.n
  started : s.started = List.range s.started.length
  startedLe : s.started.length ≤ s.tasks.length
  workQ : s.workQ = (List.range s.tasks.length).drop s.started.length
  pool : ∀ (k : Nat) (t : PTask), s.tasks[k]? = some t → (pcInPool t.pc = true ↔ s.started.length ≤ k)
  out : s.out.length = (s.tasks.map (·.replied)).sum

theorem PInv.init (n : Nat) : PInv { n := n } := by
  constructor <;> simp

theorem PInv.submit {s : PState} (inv : PInv s) (rid m : String) (args : Args) :
    PInv { s with tasks := s.tasks ++ [{ rid := rid, method := m, args := args }],
                  workQ := s.workQ ++ [s.tasks.length] } := by
  exact {
    ok := forall_getElem?_concat inv.ok (TaskOK.new rid m args)
    running := by simp [pcActive, inv.running]
    bound := inv.bound
    started := inv.started
    startedLe := by simp; have := inv.startedLe; omega
    workQ := by
      simp only [List.length_append, List.length_singleton, List.range_succ]
      rw [List.drop_append_of_le_length (by simpa using inv.startedLe), ← inv.workQ]
    pool := forall_getElem?_concat inv.pool ⟨fun _ => inv.startedLe, fun _ => rfl⟩
    out := by simp [inv.out] }

theorem PInv.taskStep {s s' : PState} {k : Nat} {t0 t1 : PTask} (inv : PInv s) (st : TaskStep s s' k t0 t1) :
    PInv s' := by
  have hlen : s'.tasks.length = s.tasks.length := by rw [st.tasks, List.length_set]
  have hklt : k < s.tasks.length := (List.getElem?_eq_some_iff.mp st.get).1
  -- the order clauses: a start moves the head of the queue, the first task not yet started, to `started`; any other step
  -- leaves both lists alone and moves a task that had been started
  have ⟨started', startedLe', workQ', others, hk⟩ :
      s'.started = List.range s'.started.length ∧ s'.started.length ≤ s.tasks.length ∧
      s'.workQ = (List.range s.tasks.length).drop s'.started.length ∧
      (∀ (j : Nat) (t : PTask), j ≠ k → s.tasks[j]? = some t → (pcInPool t.pc = true ↔ s'.started.length ≤ j)) ∧
      ¬ s'.started.length ≤ k := by
    have e1 := inv.started
    have e2 := inv.workQ
    rcases st.fifo with ⟨hp, hh, hw, hs⟩ | ⟨hp, hw, hs⟩
    · rw [e2] at hh
      obtain ⟨hk, hlt⟩ := head?_drop_range hh
      rw [hw, hs, e2, List.tail_drop]
      simp only [List.length_append, List.length_singleton]
      refine ⟨?_, by omega, trivial, fun j t hj ht => ?_, by omega⟩
      · rw [List.range_succ, ← e1, hk]
      · rw [inv.pool j t ht]; omega
    · rw [hw, hs]
      refine ⟨e1, inv.startedLe, e2, fun j t _ ht => inv.pool j t ht, fun hle => ?_⟩
      have := (inv.pool k t0 st.get).mpr hle
      rw [hp] at this; cases this
  exact {
    ok := st.tasks ▸ forall_getElem?_set hklt (st.ok (inv.ok k t0 st.get)) fun j t _ => inv.ok j t
    running := by
      have := filter_length_set (fun t => pcActive t.pc) s.tasks k t0 t1 st.get
      have r := st.running
      have r0 := inv.running
      rw [st.tasks]
      omega
    bound := by rw [st.n]; exact st.bound inv.bound
    started := started'
    startedLe := hlen ▸ startedLe'
    workQ := hlen ▸ workQ'
    pool := st.tasks ▸ forall_getElem?_set hklt (by simpa [st.notInPool] using hk) others
    out := by
      have := sum_map_set (·.replied) s.tasks k t0 t1 st.get
      have o := st.out
      have o0 := inv.out
      rw [st.tasks]
      omega }

theorem PInv.step {s s' : PState} {a : PAct} {e : List PEff} (inv : PInv s) (h : pstep s a = some (s', e)) :
    PInv s' := by
  cases PStep.of_pstep h with
  | submit rid m args => exact inv.submit rid m args
  | @start k t ht hp hq hr =>
    refine inv.taskStep (k := k) (t0 := t) (t1 := advTask t) {
      get := ht, tasks := rfl, n := rfl, notInPool := advTask_notInPool t
      ok := fun ok => advTask_ok t (ok.at hp)
      running := by rw [hp]; show s.running + 1 - _ = _ - 0; split <;> rfl
      bound := fun _ => by show s.running + 1 - _ ≤ s.n; split <;> omega
      out := by show s.out.length + _ = _; rw [advTask_replied]
      fifo := .inl ⟨by rw [hp]; rfl, hq, rfl, rfl⟩ }
  | @callBegin k t c ht hp =>
    refine inv.taskStep (k := k) (t0 := t) (t1 := { t with pc := .inCall c, calls := t.calls ++ [c] }) {
      get := ht, tasks := rfl, n := rfl, notInPool := rfl, out := rfl, bound := id
      ok := fun ok => (taskOK_iff _).mpr ⟨(ok.at hp).1, taskNext_of_eq (ok.at hp).2 rfl rfl rfl⟩
      running := by rw [hp]; rfl
      fifo := .inr ⟨by rw [hp]; rfl, rfl, rfl⟩ }
  | @callEnd k t c o ht hp =>
    refine inv.taskStep (k := k) (t0 := t) (t1 := advTask { t with got := t.got ++ [o] }) {
      get := ht, tasks := rfl, n := rfl, notInPool := advTask_notInPool _
      ok := fun ok => advTask_ok _ (ok.at hp).1
      running := by rw [hp]; show s.running - _ = _ - 1; split <;> omega
      bound := fun _ => by show s.running - _ ≤ s.n; omega
      out := by show s.out.length + _ = _; rw [advTask_replied]
      fifo := .inr ⟨by rw [hp]; rfl, rfl, rfl⟩ }
  | @put k t line ht hp =>
    refine inv.taskStep (k := k) (t0 := t) (t1 := { t with pc := .done, replied := t.replied + 1 }) {
      get := ht, tasks := rfl, n := rfl, notInPool := rfl
      ok := fun ok => (taskOK_iff _).mpr (show t.replied + 1 + t.notified = 1 by have := (ok.at hp).1; omega)
      running := by rw [hp]; rfl
      bound := fun _ => show s.running - 1 ≤ s.n by omega
      out := by show (s.out ++ [line]).length + _ = _; rw [List.length_append]; exact Nat.add_right_comm ..
      fifo := .inr ⟨by rw [hp]; rfl, rfl, rfl⟩ }

theorem prun_inv {P : PState → Prop} (hstep : ∀ t a t' e, P t → pstep t a = some (t', e) → P t') :
    ∀ (acts : List PAct) {s0 s : PState}, P s0 → prun s0 acts = some s → P s
  | [], _, _, h0, h => by cases h; exact h0
  | a :: rest, s0, _, h0, h => by
    simp only [prun] at h
    split at h
    · next s' e hs => exact prun_inv hstep rest (hstep s0 a s' e h0 hs) h
    · cases h

theorem prun_n (acts : List PAct) (s0 s : PState) : prun s0 acts = some s → s.n = s0.n :=
  prun_inv (P := fun t => t.n = s0.n) (fun _ _ _ _ ht hs => (PStep.of_pstep hs).n.trans ht) acts rfl

theorem PInv.not_active {p : PState} (inv : PInv p) (hr : p.running = 0) {t : PTask} (ht : t ∈ p.tasks) :
    pcActive t.pc = false := by
  have h0 : (p.tasks.filter (fun t => pcActive t.pc)).length = 0 := by rw [← inv.running, hr]
  exact Bool.eq_false_iff.mpr fun ha =>
    List.ne_nil_of_mem (List.mem_filter.mpr ⟨ht, ha⟩) (List.length_eq_zero_iff.mp h0)

theorem PInv.idle_only_submit {p p' : PState} {a : PAct} {pe : List PEff} (inv : PInv p) (hr : p.running = 0)
    (hq : p.workQ = []) (h : pstep p a = some (p', pe)) (hns : ∀ r m ar, a ≠ .submit r m ar) : False := by
  have idle : ∀ {k : Nat} {t : PTask}, p.tasks[k]? = some t → pcActive t.pc ≠ true := fun ht ha =>
    Bool.false_ne_true ((inv.not_active hr (List.mem_of_getElem? ht)).symm.trans ha)
  cases PStep.of_pstep h with
  | submit r m ar => exact hns r m ar rfl
  | start ht hp hh => rw [hq] at hh; cases hh
  | callBegin ht hp => exact idle ht (by rw [hp]; rfl)
  | callEnd o ht hp => exact idle ht (by rw [hp]; rfl)
  | put ht hp => exact idle ht (by rw [hp]; rfl)

theorem PInv.idle_done {p : PState} (inv : PInv p) (hr : p.running = 0) (hq : p.workQ = []) :
    ∀ t ∈ p.tasks, pcDone t.pc = true := by
  intro t ht
  have hact := inv.not_active hr ht
  obtain ⟨k, hk⟩ := List.mem_iff_getElem?.mp ht
  have hklt : k < p.tasks.length := (List.getElem?_eq_some_iff.mp hk).1
  have hpool : ¬ pcInPool t.pc = true := fun hh => by
    have h1 := (inv.pool k t hk).mp hh
    have h3 := congrArg List.length inv.workQ
    simp [hq] at h3
    omega
  cases hp : t.pc <;> simp [hp, pcActive, pcInPool] at hact hpool ⊢
  rfl

theorem PInv.head_waiting {p : PState} {k : Nat} (inv : PInv p) (hk : p.workQ.head? = some k) :
    ∃ t, p.tasks[k]? = some t ∧ t.pc = .inPool := by
  obtain ⟨rfl, hlt⟩ := head?_drop_range (inv.workQ ▸ hk)
  have ht := List.getElem?_eq_getElem hlt
  have := (inv.pool _ _ ht).2 (Nat.le_refl _)
  exact ⟨_, ht, by cases hp : p.tasks[p.started.length].pc <;> simp [hp, pcInPool] at this ⊢⟩

theorem pool_busy_progress {p : PState} (inv : PInv p) (hn : 1 ≤ p.n) (hb : p.running = 0 → p.workQ ≠ []) :
    (∃ k, (pstep p (.start k)).isSome = true ∨ (pstep p (.callBegin k)).isSome = true ∨
      (pstep p (.put k)).isSome = true) ∨
    (∃ (k : Nat) (t : PTask) (c : Call), p.tasks[k]? = some t ∧ t.pc = .inCall c) := by
  by_cases hrun : p.running = 0
  · -- nothing running, something queued: a free worker takes the head of the queue
    obtain ⟨k, hk⟩ : ∃ k, p.workQ.head? = some k := by
      cases hw : p.workQ with
      | nil => exact absurd hw (hb hrun)
      | cons k q => exact ⟨k, rfl⟩
    obtain ⟨t, ht, hpc⟩ := inv.head_waiting hk
    exact .inl ⟨k, .inl (PStep.start ht hpc hk (by omega)).isSome⟩
  · -- some task is counted as running: it is about to call, inside a call, or about to reply
    have hpos : 0 < (p.tasks.filter (fun t => pcActive t.pc)).length := by
      have := inv.running; omega
    obtain ⟨t, htm⟩ := List.exists_mem_of_length_pos hpos
    obtain ⟨htm, hact⟩ := List.mem_filter.1 htm
    obtain ⟨k, ht⟩ := List.mem_iff_getElem?.mp htm
    cases hp : t.pc with
    | inPool => simp [hp, pcActive] at hact
    | done => simp [hp, pcActive] at hact
    | inCall c => exact .inr ⟨k, t, c, ht, hp⟩
    | callBegin c => exact .inl ⟨k, .inr (.inl (PStep.callBegin ht hp).isSome)⟩
    | put line => exact .inl ⟨k, .inr (.inr (PStep.put ht hp).isSome)⟩

theorem PInv.progress {p : PState} (inv : PInv p) (hn : 1 ≤ p.n) (hw : ∃ t ∈ p.tasks, pcDone t.pc = false) :
    (∃ k, (pstep p (.start k)).isSome = true ∨ (pstep p (.callBegin k)).isSome = true ∨
      (pstep p (.put k)).isSome = true) ∨
    (∃ (k : Nat) (t : PTask) (c : Call), p.tasks[k]? = some t ∧ t.pc = .inCall c) := by
  refine pool_busy_progress inv hn fun hrun hq => ?_
  obtain ⟨t, htm, hnd⟩ := hw
  rw [inv.idle_done hrun hq t htm] at hnd
  cases hnd

-- the names the property statements use (Props/C04, C04S, C18, `c20s_closed`, `MWork`): reachability, and `pcDone` / `pcActive`
-- as functions in the namespace of `PPc`

def PReach (n : Nat) (s : PState) : Prop := ∃ acts, prun { n := n } acts = some s

theorem PReach.inv {n : Nat} {s : PState} (h : PReach n s) : PInv s := by
  obtain ⟨acts, h⟩ := h
  exact prun_inv (fun _ _ _ _ inv hs => inv.step hs) acts (PInv.init n) h

def PPc.isDone : PPc → Bool | .done => true | _ => false
def PPc.isActive : PPc → Bool | .inPool => false | .done => false | _ => true

theorem PPc.isDone_eq : PPc.isDone = pcDone := by funext p; cases p <;> rfl
theorem PPc.isActive_eq : PPc.isActive = pcActive := by funext p; cases p <;> rfl

end Ari.Conc
