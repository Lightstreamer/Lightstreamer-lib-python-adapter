import AriVerif.Conc.Pool
import AriVerif.Dispatch
import AriVerif.Framing
import AriVerif.Proto
/-
  Conc/MetaSrv.lean — the whole Metadata server as the co-simulation sees it: start-up, reader (framing +
  Dispatch), the worker pool (Conc/Pool), send queue and writer, and `Server.close()` run by the reader on an
  honoured close request (stop pill, join of the writer, pool shutdown, socket close).  Theorems:
  Conc/MetaStep.lean, Conc/MetaProj.lean, Conc/MetaGate.lean, Conc/MetaClose.lean, Conc/MetaFault.lean.
-/
namespace Ari.Conc
open Ari

/-- `_Sender._STOP_WAITING_PILL`: the sentinel `_Sender.quit()` puts into the send queue. -/
def stopPill : String := "STOP_WAITING_PILL"

structure MState where
  cfg : SrvCfg
  pool : PState
  inbound : List String := []
  rbuf : String := ""
  /-- reader actions of the lines already received, still to perform (the head is a `.reply` the reader is
      about to enqueue) -/
  rq : List RAct := []
  rst : RState
  /-- the send queue; `none` is the stop pill of `_Sender.quit()` -/
  sendQ : List (Option String) := []
  rthr : Nat := 0
  wthr : Nat := 0
  mpc : Nat := 0
  wsend : Option String := none
  written : List String := []
  /-- progress of `Server.close()` on the reader thread: 0 = not called; 1 = stop flag set and stop pill enqueued, the
      reader is joining the writer; 2 = writer joined, the reader waits in `executor.shutdown()`; 3 = pool shut down,
      socket closed -/
  cpc : Nat := 0
  sockClosed : Bool := false
  /-- the peer has closed or reset the connection: once the delivered bytes are consumed, `recv` fails (EOF / ECONNRESET) -/
  inEnd : Bool := false
  /-- `os._exit` ran (default reaction to an I/O failure): the process is gone -/
  exited : Bool := false
  /-- ghost: I/O-handler notifications so far -/
  nio : Nat := 0

inductive MEff
  | enqueue (line : String)
  | submit (n : Nat)
  | adapterBegin (c : String)
  | adapterEnd (c : String)
  | handlerExc
  | sent (bytes : String)
  | enqueuePill
  | sockClose
  | ioHandler      -- `ExceptionHandler.handle_ioexception` invoked
  | exit           -- `os._exit(1)`
deriving Repr

/-- perform the reader's local actions up to (not including) the next enqueue. -/
def runLocal (s : MState) : List RAct → MState × List MEff
  | [] => ({ s with rq := [] }, [])
  | .reply l :: rest => ({ s with rq := .reply l :: rest }, [])
  | .submit m id toks :: rest =>
    match decodeRequest m toks with
    | some (.ok a) =>
      match pstep s.pool (.submit id m a) with
      | some (p, _) =>
        let (s', e) := runLocal { s with pool := p } rest
        (s', .submit p.tasks.length :: e)
      | none => runLocal s rest
    | _ => runLocal s rest
  | .handlerExc :: rest => let (s', e) := runLocal s rest; (s', .handlerExc :: e)   -- Dispatch.onException already consults the configuration
  | .quit :: rest => ({ s with rq := .quit :: rest }, [])                 -- `quit()`: about to enqueue the stop pill
  | .poolShutdown :: rest => ({ s with rq := .poolShutdown :: rest }, []) -- waits (writer join, then pool)
  | _ :: rest => runLocal s rest

def liftPool (s : MState) (r : Option (PState × List PEff)) : Option (MState × List MEff) :=
  r.map fun (p, effs) =>
    let (s1, me) := effs.foldl (fun (acc : MState × List MEff) e =>
      match e with
      | .enqueue l => ({ acc.1 with sendQ := acc.1.sendQ ++ [some l] }, acc.2 ++ [.enqueue l])
      | .adapterBegin c => (acc.1, acc.2 ++ [.adapterBegin (Proto.showCall c)])
      | .adapterEnd c => (acc.1, acc.2 ++ [.adapterEnd c.name])
      | .handlerExc => (acc.1, if s.cfg.excHandler.isSome then acc.2 ++ [.handlerExc] else acc.2)) ({ s with pool := p }, [])
    (s1, me)

/-- `on_ioexception` on the failing thread: the handler (if installed) is told; the process exits unless it returns a false
    value. -/
def ioEffects (cfg : SrvCfg) : List MEff := (onIoException cfg).map fun a => match a with | .handlerIo => .ioHandler | .exit => .exit

/-- the bookkeeping of a reported I/O failure (ghost count, process exit). -/
def ioReport (s : MState) : MState :=
  { s with nio := s.nio + (if s.cfg.ioHandler.isSome then 1 else 0),
           exited := (match s.cfg.ioHandler with | none => true | some r => r) }

inductive MOp
  | threadStart | deliver (c : String) | recv | put | get | send | taskStart | adapterBegin
  | adapterEnd (o : Outcome)
  | join          -- the reader's `join()` of the writer thread returns
  | poolWait      -- the reader's `executor.shutdown()` returns
  | endOfInput    -- the peer closes / resets the connection (environment)
  | sendFail      -- the writer's `sendall` raises OSError (environment decides which write fails)

def mstep (s : MState) (env : InitEnv) (tid : String) (op : MOp) : Option (MState × List MEff) :=
  if s.exited then none else
  if tid = "P" then
    match op with
    | .deliver c => if s.inEnd then none else some ({ s with inbound := s.inbound ++ [c] }, [])
    | .endOfInput => some ({ s with inEnd := true }, [])
    | _ => none
  else if tid = "M" then
    match op, s.mpc with
    | .threadStart, 0 => some ({ s with mpc := 1, wthr := 1 }, [])
    | .put, 1 =>
      let l := "1|" ++ writeCredentials none none
      some ({ s with sendQ := s.sendQ ++ [some l], mpc := 2, rthr := 1 }, [.enqueue l])
    | _, _ => none
  else if tid = "R" then
    if s.rthr = 1 then (match op with | .threadStart => some ({ s with rthr := 2 }, []) | _ => none) else
    if s.rthr = 0 ∨ s.rthr = 3 ∨ s.rthr = 4 then none else
    match op, s.rq with
    | .recv, [] =>
      match s.inbound with
      | [] =>
        -- EOF / reset: reported through `on_ioexception`, then the reader leaves its loop (`rthr = 4`: died on a failure)
        if s.inEnd then some (ioReport { s with rthr := 4 }, ioEffects s.cfg) else none
      | c :: rest =>
        let (lines, b) := feed s.rbuf c
        let (st, acts) := dispatchAll s.cfg env s.rst lines
        some (runLocal { s with inbound := rest, rbuf := b, rst := st } acts.flatten)
    | .put, .reply l :: rest =>
      let (s', e) := runLocal { s with sendQ := s.sendQ ++ [some l] } rest
      some (s', .enqueue l :: e)
    | .put, .quit :: rest =>
      -- `_RequestManager.quit()`: stop flag, stop pill behind everything already queued; then `join()`
      some ({ s with sendQ := s.sendQ ++ [none], rq := rest, cpc := 1 }, [.enqueuePill])
    | .join, .poolShutdown :: _ =>
      if s.cpc = 1 ∧ (s.wthr = 3 ∨ s.wthr = 4) then some ({ s with cpc := 2 }, []) else none
    | .poolWait, .poolShutdown :: .sockClose :: _ =>
      -- `executor.shutdown()` returns when no task is queued or running; then the socket is closed and the reader, its stop
      -- flag set, leaves its loop (whatever followed an honoured close request in the same read is not modelled: the
      -- protocol sends nothing after it)
      if s.cpc = 2 ∧ s.pool.running = 0 ∧ s.pool.workQ = [] then
        some ({ s with cpc := 3, sockClosed := true, rq := [], rthr := 3 }, [.sockClose])
      else none
    | _, _ => none
  else if tid = "W" then
    if s.wthr = 1 then (match op with | .threadStart => some ({ s with wthr := 2 }, []) | _ => none) else
    if s.wthr = 0 ∨ s.wthr = 3 ∨ s.wthr = 4 then none else
    match op, s.wsend with
    | .sendFail, some _ =>
      -- the write fails: reported through `on_ioexception`, the message is lost, the writer leaves its loop (`wthr = 4`)
      some (ioReport { s with wsend := none, wthr := 4 }, ioEffects s.cfg)
    | .get, none =>
      match s.sendQ with
      | some m :: rest => some ({ s with sendQ := rest, wsend := some m }, [])
      | none :: rest => some ({ s with sendQ := rest, wthr := 3 }, [])           -- the stop pill: the writer leaves its loop
      | [] => none
    | .send, some m => some ({ s with wsend := none, written := s.written ++ [m] }, [.sent (m ++ "\r\n")])
    | _, _ => none
  else if tid.startsWith "T" then
    match (tid.drop 1).toString.toNat? with
    | none => none
    | some n =>
      let k := n - 1
      match op with
      | .taskStart => liftPool s (pstep s.pool (.start k))
      | .adapterBegin => liftPool s (pstep s.pool (.callBegin k))
      | .adapterEnd o => liftPool s (pstep s.pool (.callEnd k o))
      | .put => liftPool s (pstep s.pool (.put k))
      | _ => none
  else none

def menabled (s : MState) : List String :=
  if s.exited then [] else
  let rgo : Bool := match s.rq with
    | [] => !s.inbound.isEmpty || s.inEnd
    | .poolShutdown :: _ => (s.cpc = 1 ∧ (s.wthr = 3 ∨ s.wthr = 4)) ∨ (s.cpc = 2 ∧ s.pool.running = 0 ∧ s.pool.workQ = [])
    | _ => true
  let r := if s.rthr = 1 ∨ (s.rthr = 2 ∧ rgo) then ["R"] else []
  let w := if s.wthr = 0 ∨ s.wthr = 3 ∨ s.wthr = 4 then [] else if s.wthr = 1 then ["W"] else
    match s.wsend with
    | some _ => ["W"]
    | none => if s.sendQ.isEmpty then [] else ["W"]
  let ts := (List.range s.pool.tasks.length).filterMap fun k =>
    match s.pool.tasks[k]? with
    | none => none
    | some t =>
      match t.pc with
      | .done => none
      | .inPool => if s.pool.workQ.head? = some k ∧ s.pool.running < s.pool.n then some ("T" ++ toString (k + 1)) else none
      | _ => some ("T" ++ toString (k + 1))
  r ++ ts ++ w

def msnap (s : MState) : String :=
  "pool:q=" ++ ",".intercalate (s.pool.workQ.map fun k => "T" ++ toString (k + 1)) ++ ";run=" ++ toString s.pool.running ++
    "|sendq=" ++ toString s.sendQ.length ++ "|init=" ++ (if s.rst.initExpected then "t" else "f") ++
    "|done=" ++ toString (s.pool.tasks.filter fun t => match t.pc with | .done => true | _ => false).length ++
    "|sock=" ++ (if s.sockClosed then "closed" else "open")

end Ari.Conc
