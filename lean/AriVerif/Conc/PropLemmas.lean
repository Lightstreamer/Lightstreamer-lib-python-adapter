import AriVerif.Conc.InvProof
namespace Ari.Conc

theorem Inv.cur_of_held {s : IState} (h : Inv s) {k : Nat} (hk : k < s.ninst)
    (hh : (s.insts k).pc.held ≠ none) : cur s = some k :=
  let ⟨_, e⟩ := Option.ne_none_iff_exists'.1 hh
  (h.holder hk e).isCur

theorem Inv.quiescent_loop_none {s : IState} (h : Inv s) (hq : Quiescent s) (g : Nat) (hg : g < s.nmgr) :
    (s.mgrs g).loop = none := by
  cases hlo : (s.mgrs g).loop with
  | none => rfl
  | some k =>
    obtain ⟨hk, _, hl⟩ := h.loopInst g hg k hlo
    rw [hq.2 k hk] at hl
    cases hl

theorem Inv.quiescent_cur {s : IState} (h : Inv s) (hq : Quiescent s) : cur s = none := by
  unfold cur
  cases ha : s.active with
  | none => rfl
  | some g => simpa using h.quiescent_loop_none hq g (h.activeLt g ha)

theorem Inv.quiescent_queue {s : IState} (h : Inv s) (hq : Quiescent s) (g : Nat) (hg : g < s.nmgr) :
    (s.mgrs g).q = [] := by
  apply Classical.byContradiction
  intro hne
  have hr := h.noLostWake g hg hne
  rw [h.running g hg, h.quiescent_loop_none hq g hg] at hr
  cases hr

theorem Inv.quiescent_qL {s : IState} (h : Inv s) (hq : Quiescent s) : qL s = [] := by
  unfold qL
  cases ha : s.active with
  | none => rfl
  | some g => simpa using h.quiescent_queue hq g (h.activeLt g ha)

theorem Inv.quiescent_arr_fin {s : IState} (h : Inv s) (hq : Quiescent s) : s.arr = s.fin := by
  rw [h.seq]
  simp [heldL, h.quiescent_cur hq, h.quiescent_qL hq, rheldL, hq.1]

theorem Inv.quiescent_between {s : IState} (h : Inv s) (hq : Quiescent s) : betweenTasks s = true := by
  simp [betweenTasks, h.quiescent_cur hq]

theorem quiescent_decOf_zero {s : IState} (hq : Quiescent s) (g : Nat) : sumUpto (decOf s g) s.ninst = 0 :=
  sumUpto_zero fun k hk => by simp [decOf, hq.2 k hk]

end Ari.Conc
