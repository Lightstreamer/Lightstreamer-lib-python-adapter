import AriVerif.Conc.Item
/-
  Conc/ItemStep.lean — the enabled branches of `istep` as a relation.  Arguments about "every step" go by
  `cases IStep.of_istep h`, arguments about one branch use its constructor (`IStep.sound`, `IStep.unique`).

  Trap: never close `big.field = s.field` (or pass `P big.field` for `P s.field`) by `rfl`/`exact` when `big` is
  a post-state: the unifier first tries `big =?= s` field by field.  Unfold the setters with `simp` instead.
-/
namespace Ari.Conc

abbrev IState.mgrAt (s : IState) (k : Nat) : Mgr := s.mgrs (s.insts k).gen

/-- the outcome a pop by instance `k` reads: its generation's `lastOk` on its first pop, its own `ok` afterwards. -/
abbrev IState.okAt (s : IState) (k : Nat) : Bool := if (s.insts k).deq = 0 then (s.mgrAt k).lastOk else (s.insts k).ok

inductive IStep (s : IState) : IAct → IState → List Eff → Prop
  | lockMgr_active : s.rheld = none → s.active = some g →
    IStep s (.lockMgr t) (addLog
      { setMgr s g { s.mgrs g with queued := (s.mgrs g).queued + 1 } with
        rheld := some (t, g), arr := s.arr ++ [t] } [.arrive t]) []
  | lockMgr_fresh : s.rheld = none → s.active = none → t.isSub = true →
    IStep s (.lockMgr t) (addLog
      { s with mgrs := upd s.mgrs s.nmgr { queued := 1 }, nmgr := s.nmgr + 1, active := some s.nmgr,
               rheld := some (t, s.nmgr), arr := s.arr ++ [t] } [.arrive t]) []
  | lockMgr_noMgr : s.rheld = none → s.active = none → t.isSub = false →
    IStep s (.lockMgr t) (addLog
      { s with arr := s.arr ++ [t], fin := s.fin ++ [t], lost := s.lost ++ [t] } [.arrive t, .noMgr t]) []
  | addTask_running : s.rheld = some (t, g) → (s.mgrs g).running = true →
    IStep s .addTask { setMgr s g { s.mgrs g with q := (s.mgrs g).q ++ [t] } with rheld := none } []
  | addTask_submit : s.rheld = some (t, g) → (s.mgrs g).running = false →
    IStep s .addTask (addLog
      { setMgr s g { s.mgrs g with q := (s.mgrs g).q ++ [t], running := true, loop := some s.ninst } with
        rheld := none, insts := upd s.insts s.ninst { gen := g }, ninst := s.ninst + 1 }
      [.submit s.ninst g]) [.submit s.ninst]
  | start : k < s.ninst → (s.insts k).pc = .inPool →
    IStep s (.start k) (setInst s k { s.insts k with pc := .atLoop }) []
  | pop_nil : k < s.ninst → (s.insts k).pc = .atLoop →
      (s.mgrAt k).q = [] →
    IStep s (.pop k) (addLog
      (setInst (setMgr s (s.insts k).gen { s.mgrAt k with
          running := false, loop := none,
          lastOk := s.okAt k }) k
        { s.insts k with pc := .dec,
                         ok := s.okAt k })
      [.exit_ k]) []
  | pop_late : k < s.ninst → (s.insts k).pc = .atLoop →
      (s.mgrAt k).q = t :: rest → t.isSub = true → rest ≠ [] →
    IStep s (.pop k) (addLog
      { setInst (setMgr s (s.insts k).gen { s.mgrAt k with q := rest }) k
          { s.insts k with ok := false, deq := (s.insts k).deq + 1,
                           pc := .put t (replyLine t (writeError "SUB" subscribeLate)) .atLoop } with
        late := s.late ++ [t] } [.pop k t false, .skip k t]) []
  | pop_sub : k < s.ninst → (s.insts k).pc = .atLoop →
      (s.mgrAt k).q = [t] → t.isSub = true →
    IStep s (.pop k) (addLog
      (setInst (setMgr s (s.insts k).gen { s.mgrAt k with q := [] }) k
        { s.insts k with deq := (s.insts k).deq + 1, pc := .setCode t,
                         ok := s.okAt k })
      [.pop k t true]) []
  | pop_usb : k < s.ninst → (s.insts k).pc = .atLoop →
      (s.mgrAt k).q = t :: rest → t.isSub = false →
      s.okAt k = true →
    IStep s (.pop k) (addLog
      (setInst (setMgr s (s.insts k).gen { s.mgrAt k with q := rest }) k
        { s.insts k with ok := true, deq := (s.insts k).deq + 1, pc := .callBegin .usb t })
      [.pop k t rest.isEmpty]) []
  | pop_usb_skip : k < s.ninst → (s.insts k).pc = .atLoop →
      (s.mgrAt k).q = t :: rest → t.isSub = false →
      s.okAt k = false →
    IStep s (.pop k) (addLog
      (setInst (setMgr s (s.insts k).gen { s.mgrAt k with q := rest }) k
        { s.insts k with ok := false, deq := (s.insts k).deq + 1,
                         pc := .put t (replyLine t (writeVoid "USB")) (.clearCode t) })
      [.pop k t rest.isEmpty, .skip k t]) []
  | put_loop : k < s.ninst → (s.insts k).pc = .put t line .atLoop →
    IStep s (.put k) (finish (replied
      (addLog (addOut (setInst s k { s.insts k with pc := .atLoop }) line) [.lsnEnq (.inst k) line]) t) t)
      [.enqueue line]
  | put_clear : k < s.ninst → (s.insts k).pc = .put t line (.clearCode t') →
    IStep s (.put k) (replied
      (addLog (addOut (setInst s k { s.insts k with pc := .clearCode t' }) line) [.lsnEnq (.inst k) line]) t)
      [.enqueue line]
  | put_other : k < s.ninst → (s.insts k).pc = .put t line next → next ≠ .atLoop → (∀ t', next ≠ .clearCode t') →
    IStep s (.put k)
      (addLog (addOut (setInst s k { s.insts k with pc := next }) line) [.lsnEnq (.inst k) line]) [.enqueue line]
  | setCode : k < s.ninst → (s.insts k).pc = .setCode t →
    IStep s (.setCode k) (addLog
      { setInst (setMgr s (s.insts k).gen { s.mgrAt k with code := some t.id }) k
          { s.insts k with pc := .callBegin .snap t } with
        execd := s.execd ++ [t.id], cleared := false } [.setCode k t.id]) []
  | callBegin : k < s.ninst → (s.insts k).pc = .callBegin m t →
    IStep s (.callBegin k) (addLog
      { setInst s k { s.insts k with pc := .inCall m t } with
        fwd := match (generalizing := false) m with | .sub => some t.id | .usb => none | .snap => s.fwd }
        [.begin_ k m t])
      [.adapterBegin m]
  | callEnd_snap_ret : k < s.ninst →
      (s.insts k).pc = .inCall .snap t → (s.insts k).lsn = none →
    IStep s (.callEnd k (.ret isF))
      (setInst (addLog s [.end_ k .snap t true]) k
        { s.insts k with pc := if isF then .eosRead t else .callBegin .sub t }) [.adapterEnd .snap]
  | callEnd_snap_raise : k < s.ninst →
      (s.insts k).pc = .inCall .snap t → (s.insts k).lsn = none →
    IStep s (.callEnd k (.raise ex))
      (setInst (addLog s [.end_ k .snap t false]) k
        { s.insts k with ok := false, pc := .put t (replyLine t (writeError "SUB" ex)) .atLoop })
      [.adapterEnd .snap]
  | callEnd_sub_ret : k < s.ninst →
      (s.insts k).pc = .inCall .sub t → (s.insts k).lsn = none →
    IStep s (.callEnd k (.ret b))
      (setInst { addLog s [.end_ k .sub t true] with lastInv := some (.sub, t.id, true) } k
        { s.insts k with ok := true, pc := .put t (replyLine t (writeVoid "SUB")) .atLoop })
      [.adapterEnd .sub]
  | callEnd_sub_raise : k < s.ninst →
      (s.insts k).pc = .inCall .sub t → (s.insts k).lsn = none →
    IStep s (.callEnd k (.raise ex))
      (setInst { addLog s [.end_ k .sub t false] with lastInv := some (.sub, t.id, false), fwd := none } k
        { s.insts k with ok := false, pc := .put t (replyLine t (writeError "SUB" ex)) .atLoop })
      [.adapterEnd .sub]
  | callEnd_usb_ret : k < s.ninst →
      (s.insts k).pc = .inCall .usb t → (s.insts k).lsn = none →
    IStep s (.callEnd k (.ret b))
      (setInst { addLog s [.end_ k .usb t true] with lastInv := some (.usb, t.id, true) } k
        { s.insts k with pc := .put t (replyLine t (writeVoid "USB")) (.clearCode t) })
      [.adapterEnd .usb]
  | callEnd_usb_raise : k < s.ninst →
      (s.insts k).pc = .inCall .usb t → (s.insts k).lsn = none →
    IStep s (.callEnd k (.raise ex))
      (setInst { addLog s [.end_ k .usb t false] with lastInv := some (.usb, t.id, false) } k
        { s.insts k with pc := .put t (replyLine t (writeError "USB" ex)) (.clearCode t) })
      [.adapterEnd .usb]
  | eosRead_emit {id : String} : k < s.ninst →
      (s.insts k).pc = .eosRead t → readCode s = some id →
      eventLine s.item id .eos = some line →
    IStep s (.eosRead k)
      (addLog (setInst s k { s.insts k with pc := .put t line (.callBegin .sub t) }) [.libEos k t id]) []
  | eosRead_skip : k < s.ninst → (s.insts k).pc = .eosRead t →
      (readCode s).bind (fun id => eventLine s.item id .eos) = none →
    IStep s (.eosRead k) (setInst s k { s.insts k with pc := .callBegin .sub t }) []
  | clearCode : k < s.ninst → (s.insts k).pc = .clearCode t →
    IStep s (.clearCode k) (addLog (finish
      { setInst (setMgr s (s.insts k).gen { s.mgrAt k with code := none }) k
          { s.insts k with pc := .atLoop } with cleared := true } t) [.clearCode k]) []
  | dec_remove : k < s.ninst → (s.insts k).pc = .dec →
      (s.mgrAt k).code = none → (s.mgrAt k).queued - (s.insts k).deq = 0 → s.active = some (s.insts k).gen →
    IStep s (.dec k) (addLog
      { setInst (setMgr s (s.insts k).gen { s.mgrAt k with
          queued := (s.mgrAt k).queued - (s.insts k).deq }) k { s.insts k with pc := .done } with
        active := none } [.remove (s.insts k).gen]) []
  | dec_keep : k < s.ninst → (s.insts k).pc = .dec →
      ¬ ((s.mgrAt k).code = none ∧ (s.mgrAt k).queued - (s.insts k).deq = 0 ∧
        s.active = some (s.insts k).gen) →
    IStep s (.dec k)
      (setInst (setMgr s (s.insts k).gen { s.mgrAt k with
          queued := (s.mgrAt k).queued - (s.insts k).deq }) k { s.insts k with pc := .done }) []
  | lsnRead_inst : k < s.ninst →
      (s.insts k).pc = .inCall m t → (s.insts k).lsn = none →
    IStep s (.lsnRead (.inst k) kind)
      (setInst (addLog s [.lsnRead (.inst k) (readCode s)]) k
        { s.insts k with lsn := (readCode s).bind (fun r => eventLine s.item r kind) }) []
  | lsnRead_ext : s.ext x = none →
    IStep s (.lsnRead (.ext x) kind)
      { addLog s [.lsnRead (.ext x) (readCode s)] with
        ext := upd s.ext x ((readCode s).bind (fun r => eventLine s.item r kind)) } []
  | lsnPut_inst : k < s.ninst → (s.insts k).lsn = some line →
    IStep s (.lsnPut (.inst k))
      (addLog (addOut (setInst s k { s.insts k with lsn := none }) line) [.lsnEnq (.inst k) line])
      [.enqueue line]
  | lsnPut_ext : s.ext x = some line →
    IStep s (.lsnPut (.ext x))
      (addLog (addOut { s with ext := upd s.ext x none } line) [.lsnEnq (.ext x) line]) [.enqueue line]

theorem IStep.sound {s s' : IState} {a : IAct} {e : List Eff} (h : IStep s a s' e) : istep s a = some (s', e) := by
  cases h <;> simp [istep, *] <;> first
    | rfl
    | cases ‹List Task› <;> trivial

/-- Nothing to understand beyond exhaustiveness: each branch of `istep` (`fun_cases`) is matched against the
    constructors; where the post-state of the branch is not syntactically a constructor's (`put`, the pops)
    determinism (`key`) lets the constructor be found first. -/
theorem IStep.of_istep {s s' : IState} {a : IAct} {e : List Eff} (h : istep s a = some (s', e)) :
    IStep s a s' e := by
  have key {s1 e1} (c : IStep s a s1 e1) : IStep s a s' e := by cases c.sound.symm.trans h; exact c
  revert s' e
  fun_cases istep s a <;> rintro _ _ ⟨⟩ key <;> first
    | (try simp at *
       try cases List.isEmpty_iff.1 ‹_›
       try have := List.isEmpty_eq_false_iff.1 ‹_›
       apply key
       first
       | apply put_loop <;> assumption
       | apply put_clear <;> assumption
       | apply put_other <;> assumption
       | apply pop_late <;> assumption
       | apply pop_sub <;> assumption
       | apply pop_usb <;> assumption
       | apply pop_usb_skip <;> assumption)
    | exact dec_remove ‹_› ‹_› (Option.isNone_iff_eq_none.1 ‹_ ∧ _ ∧ _›.1) ‹_ ∧ _ ∧ _›.2.1 ‹_ ∧ _ ∧ _›.2.2
    | constructor <;> first
      | assumption
      | simp [*] at * <;> assumption
      | rename_i x
        exact Option.bind_eq_none_iff.2 fun a ha => by simpa [ha, Option.eq_none_iff_forall_ne_some] using x a

theorem IStep.unique {s s' s1 : IState} {a : IAct} {e e1 : List Eff} (c : IStep s a s1 e1)
    (h : istep s a = some (s', e)) : s' = s1 ∧ e = e1 := by
  cases c.sound.symm.trans h; trivial

theorem IStep.isSome {s s' : IState} {a : IAct} {e : List Eff} (c : IStep s a s' e) : (istep s a).isSome = true :=
  c.sound ▸ rfl

def IAct.arrives : IAct → List Task
  | .lockMgr t => [t]
  | _ => []

theorem istep_arr {s s' : IState} {a : IAct} {e : List Eff} (h : istep s a = some (s', e)) :
    s'.arr = s.arr ++ a.arrives := by
  cases IStep.of_istep h <;> simp [IAct.arrives, setInst, setMgr, addLog, addOut, finish, replied]

theorem istep_out {s s' : IState} {a : IAct} {e : List Eff} (h : istep s a = some (s', e)) :
    s'.out = s.out ++ e.filterMap fun x => match x with | .enqueue l => some l | _ => none := by
  cases IStep.of_istep h <;> simp [setInst, setMgr, addLog, addOut, finish, replied]

def IAct.isReader : IAct → Bool
  | .lockMgr _ => true
  | .addTask => true
  | _ => false

theorem istep_rheld {i i' : IState} {a : IAct} {e : List Eff} (ha : a.isReader = false) (h : istep i a = some (i', e)) :
    i'.rheld = i.rheld := by
  cases IStep.of_istep h
  case lockMgr_active | lockMgr_fresh | lockMgr_noMgr | addTask_running | addTask_submit => cases ha
  all_goals simp [setInst, setMgr, addLog, addOut, finish, replied]

theorem istep_addTask_rheld {i i' : IState} {e : List Eff} (h : istep i .addTask = some (i', e)) : i'.rheld = none := by
  cases IStep.of_istep h <;> rfl

/-- `inCall` is left out: there the action is `callEnd k r` with the outcome `r` the adapter decides. -/
theorem istep_inst_isSome {i : IState} {k : Nat} (hk : k < i.ninst) :
    match (i.insts k).pc with
    | .inPool => (istep i (.start k)).isSome = true
    | .atLoop => (istep i (.pop k)).isSome = true
    | .put _ _ _ => (istep i (.put k)).isSome = true
    | .setCode _ => (istep i (.setCode k)).isSome = true
    | .callBegin _ _ => (istep i (.callBegin k)).isSome = true
    | .eosRead _ => (istep i (.eosRead k)).isSome = true
    | .clearCode _ => (istep i (.clearCode k)).isSome = true
    | .dec => (istep i (.dec k)).isSome = true
    | _ => True := by
  split <;> first | trivial | (simp only [istep, if_true, *]; (repeat' split) <;> rfl)

theorem istep_lockMgr_isSome (i : IState) (t : Task) (h : i.rheld = none) : (istep i (.lockMgr t)).isSome = true := by
  simp only [istep, h, Option.isSome_none, Bool.false_eq_true, if_false]
  (repeat' split) <;> rfl

theorem istep_addTask_isSome (i : IState) (h : i.rheld.isSome = true) : (istep i .addTask).isSome = true := by
  cases hr : i.rheld with
  | none => rw [hr] at h; cases h
  | some p =>
    simp only [istep, hr]
    (repeat' split) <;> rfl

end Ari.Conc
