import AriVerif.Conc.InvLemmas
import Lean
/-
  Conc/InvTac.lean — clause-by-clause automation for a goal `Inv s'` split into one goal per clause, each tagged with
  the clause's field name (`refine { genLt := ?genLt, … }`): `inv_default_with hF [lemmas]` tries the same clause of the
  pre-state invariant `h : Inv s`, unfolded and simplified, then `grind`.  The present proofs do not use it.
-/
namespace Ari.Conc

syntax "inv_auto" : tactic
macro_rules
  | `(tactic| inv_auto) => `(tactic|
      grind [upd_apply, Pc.looping, Pc.between, Pc.held, Pc.afterCall, Pc.published, Pc.wf])

open Lean Elab Tactic in
/-- `inv_have h`: the main goal is tagged with a field name `X` of `Inv`; add `hc : <type of h.X>`. -/
elab "inv_have" h:ident : tactic => do
  let g ← getMainGoal
  let tag ← g.getTag
  let env ← getEnv
  let comps := tag.eraseMacroScopes.components
  let some c := comps.find? (fun c => env.contains (`Ari.Conc.Inv ++ c))
    | throwError "inv_have: goal tag {tag} names no clause of Inv"
  let fld := mkIdent (h.getId ++ c)
  let hc := mkIdent `hc
  evalTactic (← `(tactic| have $hc := $fld))

open Lean Elab Tactic in
elab "inv_fail" : tactic => do
  let g ← getMainGoal
  let tag ← g.getTag
  throwError "FAIL {tag.eraseMacroScopes}: the default automation does not prove this clause"

set_option hygiene false in
macro "inv_simp" "[" ls:Lean.Parser.Tactic.simpLemma,* "]" : tactic => `(tactic|
  simp [setInst, setMgr, addLog, addOut, finish, replied, cur, heldL, qL, rheldL, betweenTasks,
        effOk, readCode, Pc.held, Pc.between, Pc.looping, Pc.afterCall, Pc.published, Pc.wf,
        hasId_append, hasId_singleton, $ls,*] at hc ⊢)

set_option hygiene false in
/-- the extra facts `hF` (a structure, opaque to `grind`) are only opened when the clause does not follow without
    them. -/
macro "inv_default_with" hF:ident "[" ls:Lean.Parser.Tactic.simpLemma,* "]" : tactic => `(tactic|
  first
  | (inv_have h; first | exact hc | ((try inv_simp [$ls,*]) <;> inv_auto))
  | (inv_have h; cases $hF:ident; ((try inv_simp [$ls,*]) <;> inv_auto))
  | inv_fail)

end Ari.Conc
