import AriVerif.Conc.MetaProj
/-
  Conc/MetaGate.lean — C10 on the whole-Metadata-server model of the co-simulation: initialization gates everything, no
  pool task exists, and the reader owes none, while the init request is still expected (`mreach_gate_inv`).
-/
namespace Ari.Conc

/-- a request is handed to the pool only by a line that leaves the init slot consumed. -/
theorem act_submit_gate (cfg : SrvCfg) (env : InitEnv) (st : RState) (c : LineClass)
    (m id : String) (toks : List String) (h : RAct.submit m id toks ∈ (act cfg env st c).2) :
    (act cfg env st c).1.initExpected = false := by
  rw [act_initExpected]
  rcases act_actions cfg env st c with hin | ⟨h0, -⟩ | ⟨-, id', prs, rfl⟩
  · cases (hin _ h).2.2.2
  · rw [h0]; rfl
  · exact Bool.and_false _

theorem dispatchAll_init_mono (cfg : SrvCfg) (env : InitEnv) (st : RState) (lines : List String)
    (h : st.initExpected = false) : (dispatchAll cfg env st lines).1.initExpected = false := by
  induction lines generalizing st with
  | nil => exact h
  | cons l rest ih =>
    rw [dispatchAll_cons]
    refine ih _ ?_
    unfold dispatch
    rw [act_initExpected, h]
    rfl

theorem dispatchAll_submit_gate (cfg : SrvCfg) (env : InitEnv) (st : RState) (lines : List String)
    (m id : String) (toks : List String)
    (h : RAct.submit m id toks ∈ (dispatchAll cfg env st lines).2.flatten) :
    (dispatchAll cfg env st lines).1.initExpected = false := by
  induction lines generalizing st with
  | nil => simp [dispatchAll] at h
  | cons l rest ih =>
    rw [dispatchAll_cons] at h ⊢
    rcases List.mem_append.1 (show _ ∈ _ ++ _ from h) with h | h
    · refine dispatchAll_init_mono cfg env _ rest ?_
      unfold dispatch at h ⊢
      exact act_submit_gate cfg env st _ m id toks h
    · exact ih _ h

theorem owed_submit {l : List RAct} (h : l.filterMap submitTask ≠ []) : ∃ m id toks, RAct.submit m id toks ∈ l := by
  obtain ⟨t, ht⟩ := List.exists_mem_of_ne_nil _ h
  obtain ⟨a, ha, hat⟩ := List.mem_filterMap.1 ht
  cases a with
  | submit m id toks => exact ⟨m, id, toks, ha⟩
  | _ => simp [submitTask] at hat

theorem RunsLocal.gate {s : MState} {acts : List RAct} {p' : PState} {rq' : List RAct} {e : List MEff}
    (h : RunsLocal s acts p' rq' e) :
    (p'.tasks ≠ [] → s.pool.tasks ≠ [] ∨ ∃ m id toks, RAct.submit m id toks ∈ acts) ∧ ∀ a ∈ rq', a ∈ acts := by
  obtain ⟨pre, hl⟩ := h.spec
  obtain rfl := hl.pool
  refine ⟨fun h => ?_, fun a ha => by rw [hl.split]; exact List.mem_append_right _ ha⟩
  by_cases h0 : s.pool.tasks = []
  · obtain ⟨m, id, toks, ha⟩ := owed_submit (by simpa [addTasks, h0] using h : pre.filterMap submitTask ≠ [])
    exact .inr ⟨m, id, toks, by rw [hl.split]; exact List.mem_append_left _ ha⟩
  · exact .inl h0

theorem mreach_gate_inv {cfg : SrvCfg} {n : Nat} {s : MState} {log : List String} (h : MReach cfg n s log) :
    (s.pool.tasks ≠ [] ∨ ∃ m id toks, RAct.submit m id toks ∈ s.rq) → s.rst.initExpected = false := by
  induction h with
  | init => simp [MInit]
  | @step s s' log env tid op effs _ hs ih =>
    cases mstep_kind hs with
    | @rRecv c rest _ _ _ _ _ _ hrun =>
      intro hpre
      -- reduce the projections of the record update here: left to the unifier they make it compare the records
      dsimp only [recvState] at hpre ⊢
      have key : (s.pool.tasks ≠ [] ∨ ∃ m id toks, RAct.submit m id toks ∈ recvActs s env c) →
          (dispatchAll s.cfg env s.rst (feed s.rbuf c).1).1.initExpected = false := by
        rintro (h | ⟨m, id, toks, h⟩)
        · exact dispatchAll_init_mono _ _ _ _ (ih (.inl h))
        · exact dispatchAll_submit_gate _ _ _ _ m id toks h
      rcases hpre with h | ⟨m, id, toks, h⟩
      · exact key (hrun.gate.1 h)
      · exact key (.inr ⟨m, id, toks, hrun.gate.2 _ h⟩)
    | @rPut l rest _ _ _ _ hrq hrun =>
      intro hpre
      apply ih
      have hsub : ∀ {a : RAct}, a ∈ rest → a ∈ s.rq := fun h => by rw [hrq]; exact List.mem_cons_of_mem _ h
      rcases hpre with h | ⟨m, id, toks, h⟩
      · rcases hrun.gate.1 h with h | ⟨m, id, toks, h⟩
        · exact .inl h
        · exact .inr ⟨m, id, toks, hsub h⟩
      · exact .inr ⟨m, id, toks, hsub (hrun.gate.2 _ h)⟩
    | rQuit _ hrq =>
      rintro (h | ⟨m, id, toks, h⟩)
      · exact ih (.inl h)
      · exact ih (.inr ⟨m, id, toks, by rw [hrq]; exact List.mem_cons_of_mem _ h⟩)
    | rPoolWait =>
      rintro (h | ⟨m, id, toks, h⟩)
      · exact ih (.inl h)
      · cases h
    | pool _ ha hp =>
      rintro (h | h)
      · refine ih (.inl fun h0 => h ?_)
        have := (pstep_proj hp (poolAct_ne_submit ha)).1
        rw [h0] at this
        simpa using this
      · exact ih (.inr h)
    | _ => exact ih

end Ari.Conc
