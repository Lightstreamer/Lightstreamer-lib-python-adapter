import AriVerif.Conc.DataProj
/-
  Conc/DataFifo.lean — the whole-Data-server model of the co-simulation (`Conc/Data.lean`): the send queue is
  FIFO without loss or duplication (written ++ held ++ queued is exactly the log of everything enqueued) — except that
  a failing write loses exactly the one message the writer holds (`gstep_fifo_sendFail`, `greach_pending_lost`) —, the
  credentials message heads that log on every schedule, and every item's outbound sequence (`IState.out`,
  the subject of the per-item theorems C01 / C03 / C16 / C17) is embedded in it in order.
-/
namespace Ari.Conc

/-- the message the writer has taken from the queue and not yet written. -/
def gholding (s : DState) : List String := match s.wpc with | .send m => [m] | _ => []

/-- what the writer has written, holds, or will take, in order (the stop pill is not a message). -/
def gpending (s : DState) : List String := s.written ++ gholding s ++ s.sendQ.filterMap id

/-- reachability of the whole-server model, with the ghost log of every line any thread enqueued so far.
    One hypothesis on the environment: `listener.failure()` is called only once `start()` has enqueued the
    credentials message (`mpc = 2`) — the adapter is handed its listener by `set_listener` while the init request
    is processed, i.e. by the reader thread, which `start()` creates after that enqueue (an application calling
    `failure` on the server object itself during `start()` is outside the adapter interface).  Every other step is
    unconstrained — in particular listener calls (`update`, `end_of_snapshot`, `clear_snapshot`) from arbitrary
    threads at any time, requests readable before `start()`, any pool size. -/
inductive GReachL (n : Nat) (user password : Option String) : DState → List String → Prop
  | init : GReachL n user password { poolN := n, user := user, password := password } []
  | step {s s' : DState} {log : List String} {tid : String} {op : OpClass} {x : String} {effs : List GEff} :
      GReachL n user password s log → gstep s tid op x = some (s', effs) →
      ((∃ msg, op = .failurePut msg) → s.mpc = 2) →
      GReachL n user password s' (log ++ genqs effs)

/-- `GReachL` for every I/O-handler configuration: identical to `GReachL` (same steps, same hypothesis on
    `listener.failure()`, same ghost log) but starting with `ioHandler := h` (`none` = no `handle_ioexception` installed,
    `some r` = installed and returning truthiness `r`); `GReachL n u p` is the case `h = none` (`GReachL.toH`).  The
    theorems about reachable states are stated for `GReachH`. -/
inductive GReachH (n : Nat) (user password : Option String) (h : Option Bool) : DState → List String → Prop
  | init : GReachH n user password h { poolN := n, user := user, password := password, ioHandler := h } []
  | step {s s' : DState} {log : List String} {tid : String} {op : OpClass} {x : String} {effs : List GEff} :
      GReachH n user password h s log → gstep s tid op x = some (s', effs) →
      ((∃ msg, op = .failurePut msg) → s.mpc = 2) →
      GReachH n user password h s' (log ++ genqs effs)

theorem GReachL.toH {n : Nat} {u p : Option String} {s : DState} {log : List String} (h : GReachL n u p s log) :
    GReachH n u p none s log := by
  induction h with
  | init => exact .init
  | step _ hg hf ih => exact .step ih hg hf

theorem GReachH.toL {n : Nat} {u p : Option String} {s : DState} {log : List String} (h : GReachH n u p none s log) :
    GReachL n u p s log := by
  induction h with
  | init => exact .init
  | step _ hg hf ih => exact .step ih hg hf

/-- for the non-vacuity examples: a concrete run without `listener.failure()` calls stays inside `GReachH`. -/
theorem greachH_run {n : Nat} {u p : Option String} {ioh : Option Bool} (l : List (String × OpClass × String)) :
    ∀ (s : DState) (log : List String), GReachH n u p ioh s log →
    (∀ x ∈ l, ∀ msg, x.2.1 ≠ .failurePut msg) →
    ∀ s', (l.foldlM (fun (st : DState) (x : String × OpClass × String) => (gstep st x.1 x.2.1 x.2.2).map (·.1)) s) = some s' →
    ∃ log', GReachH n u p ioh s' log' := by
  intro s log h hnf s' hs
  refine foldlM_option_inv (P := fun st => ∃ lg, GReachH n u p ioh st lg) l (fun a ha st st' ⟨lg, hst⟩ hf => ?_) ⟨log, h⟩ hs
  obtain ⟨r, hg, rfl⟩ := Option.map_eq_some_iff.1 hf
  exact ⟨_, hst.step hg fun ⟨msg, hmsg⟩ => absurd hmsg (hnf a ha msg)⟩

/-- a concrete run calls no `listener.failure()`: decided by evaluation. -/
theorem no_failurePut {l : List (String × OpClass × String)}
    (h : (l.all fun x => match x.2.1 with | .failurePut _ => false | _ => true) = true) :
    ∀ x ∈ l, ∀ msg, x.2.1 ≠ .failurePut msg := by
  intro x hx msg e
  have := List.all_eq_true.1 h x hx
  rw [e] at this
  cases this

theorem genqs_gioEffects (s : DState) : genqs (gioEffects s) = [] := by
  unfold gioEffects
  cases s.ioHandler with
  | none => rfl
  | some r => cases r <;> rfl

theorem mem_gioEffects {s : DState} {e : GEff} (h : e ∈ gioEffects s) : e = .ioHandler ∨ e = .exit := by
  unfold gioEffects at h
  cases hh : s.ioHandler with
  | none => rw [hh] at h; exact .inr (List.mem_singleton.1 h)
  | some r =>
    rw [hh] at h
    rcases List.mem_cons.1 h with h | h
    · exact .inl h
    · cases r
      · cases h
      · exact .inr (List.mem_singleton.1 h)

theorem gstep_fifo_cases {s s' : DState} {tid : String} {op : OpClass} {x : String} {effs : List GEff}
    (h : gstep s tid op x = some (s', effs)) :
    gpending s' = gpending s ++ genqs effs ∨
    (op = .sendFail ∧ genqs effs = [] ∧ ∃ m, s.wpc = .send m ∧ s'.wpc = .failed ∧
      s'.written = s.written ∧ s'.sendQ = s.sendQ) := by
  cases gstep_kind h with
  | wFail hw hpc => exact .inr ⟨rfl, genqs_gioEffects _, _, hpc, rfl, rfl, rfl⟩
  | rFail => exact .inl (by simp [gpending, gholding, gioReport, genqs_gioEffects])
  | rLock | rAdd | tStart | tDec | task | lsnRead | lsnPut =>
    exact .inl (by simp [gpending, gholding, DState.lifted, genqs_liftEffs])
  | _ => exact .inl (by simp [gpending, gholding, genqs, *])

/-- **send queue is FIFO, lossless, duplicate-free.** A step — other than a failing write, see `gstep_fifo_sendFail` —
    appends exactly the lines it enqueues, in order, to written ++ held ++ queued. -/
theorem gstep_fifo {s s' : DState} {tid : String} {op : OpClass} {x : String} {effs : List GEff}
    (h : gstep s tid op x = some (s', effs)) (hop : op ≠ .sendFail) : gpending s' = gpending s ++ genqs effs := by
  rcases gstep_fifo_cases h with h | ⟨h, -⟩
  · exact h
  · exact absurd h hop

/-- **a failing write loses exactly the message in the writer's hand**, nothing else: what was written and what is queued
    stay as they are (and nothing is enqueued). -/
theorem gstep_fifo_sendFail {s s' : DState} {tid : String} {x : String} {effs : List GEff}
    (h : gstep s tid .sendFail x = some (s', effs)) :
    ∃ m, s.wpc = .send m ∧ gpending s = s.written ++ m :: s.sendQ.filterMap id ∧
      gpending s' = s.written ++ s.sendQ.filterMap id ∧ genqs effs = [] := by
  cases gstep_kind h with
  | wFail hw hpc =>
    exact ⟨_, hpc, by simp [gpending, gholding, hpc], by simp [gpending, gholding, gioReport], genqs_gioEffects _⟩
  | task _ _ ha => cases ha

/-- a writer dead on a failed write stays dead — **its state cannot be reset** —, and nobody else touches what it wrote. -/
theorem gstep_wframe {s s' : DState} {tid : String} {op : OpClass} {x : String} {effs : List GEff}
    (h : gstep s tid op x = some (s', effs)) (hf : s.wpc = .failed) : s'.wpc = .failed ∧ s'.written = s.written := by
  cases gstep_kind h with
  | wGet _ _ hpc | wPill _ _ hpc | wSend _ hpc | wFail _ hpc => rw [hpc] at hf; cases hf
  | _ => exact ⟨hf, rfl⟩

/-- **the send queue neither duplicates nor reorders, and loses at most the one message a failed write had in hand**: the
    log of everything enqueued so far is written ++ lost ++ held ++ queued, where `lost` is empty unless a write has failed
    (`wpc = .failed`), and then has at most one element. -/
theorem greach_pending_lost {n : Nat} {u p : Option String} {ioh : Option Bool} {s : DState} {log : List String}
    (h : GReachH n u p ioh s log) :
    SendLog log s.written (gholding s) (s.sendQ.filterMap id) (s.wpc = .failed) := by
  induction h with
  | init => exact ⟨[], by simp, fun _ => rfl, rfl⟩
  | @step s s' log tid op x effs _ hg _ ih =>
    rcases gstep_fifo_cases hg with hp | ⟨-, he, m, hm1, hm2, hwr, hq⟩
    · refine ih.append hp fun hf => ?_
      obtain ⟨hf', hwr⟩ := gstep_wframe hg hf
      exact ⟨hf', hwr, by simp [gholding, hf, hf']⟩
    · -- the failing write: nothing is enqueued, the message in hand is dropped
      rw [he, List.append_nil, hwr, hq, show gholding s' = [] by simp [gholding, hm2]]
      rw [show gholding s = [m] by simp [gholding, hm1]] at ih
      exact ih.drop (by simp [hm1]) hm2

/-- **written ++ held ++ queued is exactly everything enqueued so far, in enqueue order** as long as no write has failed.
    (After a failed write exactly the message the writer held is missing: `gstep_fifo_sendFail`, `greach_pending_lost`.) -/
theorem greach_pending {n : Nat} {u p : Option String} {ioh : Option Bool} {s : DState} {log : List String}
    (h : GReachH n u p ioh s log) (hw : s.wpc ≠ .failed) : gpending s = log :=
  (greach_pending_lost h).pending hw

/-- **what is on the wire is a prefix of what was enqueued** (failed write or not). -/
theorem greach_written_prefix {n : Nat} {u p : Option String} {ioh : Option Bool} {s : DState} {log : List String}
    (h : GReachH n u p ioh s log) : s.written <+: log :=
  (greach_pending_lost h).written_prefix

theorem gstep_item_out {s s' : DState} {tid : String} {op : OpClass} {x : String} {effs : List GEff}
    (h : gstep s tid op x = some (s', effs)) (y : String) :
    (getItem s' y).out = (getItem s y).out ∨ (getItem s' y).out = (getItem s y).out ++ genqs effs := by
  rcases gstep_projects h y with heq | ⟨a, e, ha, rfl⟩
  · exact .inl (by rw [heq])
  · exact .inr (by rw [genqs_liftEffs]; exact istep_out ha)

/-- **every item's replies and notifications go to the wire in the item's own order**: the per-item outbound
    sequence is embedded, in order, in the global enqueue log. -/
theorem greach_item_sublist {n : Nat} {u p : Option String} {ioh : Option Bool} {s : DState} {log : List String}
    (h : GReachH n u p ioh s log) (y : String) : (getItem s y).out.Sublist log := by
  induction h with
  | init => exact List.nil_sublist _
  | step _ hg _ ih =>
    rcases gstep_item_out hg y with heq | heq
    · rw [heq]; exact ih.trans (List.sublist_append_left _ _)
    · rw [heq]; exact List.Sublist.append ih (List.Sublist.refl _)

/-- an item nobody but adapter-owned threads calling listener methods has touched: no manager is registered
    (so `get_active_item` returns nothing) and no listener call holds a line it has yet to enqueue. -/
def IUntouched (i : IState) : Prop := i.active = none ∧ ∀ e, i.ext e = none

/-- the whole-server state before `start()` has enqueued the credentials message. -/
structure GPre (u p : Option String) (s : DState) : Prop where
  mpc : s.mpc < 2
  user : s.user = u
  password : s.password = p
  rst : s.rst = 0
  tasks : s.tasks = []
  pendFal : s.pendFal = []
  items : ∀ y, IUntouched (getItem s y)

/-- a listener call of an adapter-owned thread for an untouched item finds no subscription: nothing to enqueue. -/
theorem istep_lsnRead_untouched {i i' : IState} {e : Nat} {kind : LKind} {ef : List Eff} (hu : IUntouched i)
    (h : istep i (.lsnRead (.ext e) kind) = some (i', ef)) : IUntouched i' ∧ ef = [] := by
  obtain ⟨rfl, rfl⟩ := (IStep.lsnRead_ext (kind := kind) (hu.2 e)).unique h
  simp [IUntouched, addLog, readCode, upd, hu.1, hu.2]

theorem istep_lsnPut_untouched {i : IState} {e : Nat} (hu : IUntouched i) : istep i (.lsnPut (.ext e)) = none := by
  simp only [istep, hu.2 e]

theorem GPre.step {u p : Option String} {s s' : DState} {tid : String} {op : OpClass} {x : String}
    {effs : List GEff} (h : GPre u p s) (hg : gstep s tid op x = some (s', effs))
    (hf : ¬ ∃ msg, op = .failurePut msg) :
    (GPre u p s' ∧ genqs effs = []) ∨ genqs effs = ["1|" ++ writeCredentials u p] := by
  have hT : ∀ {n : Nat} {t : String × Nat}, s.tasks[n - 1]? = some t → False := fun ht => by
    rw [h.tasks] at ht; cases ht
  cases gstep_kind hg with
  | deliver | endOfInput | wStart | wGet | wPill | wSend => exact .inl ⟨{ h with }, rfl⟩
  | wFail => exact .inl ⟨{ h with }, genqs_gioEffects _⟩
  | mStart hm => exact .inl ⟨{ h with mpc := Nat.lt_succ_self 1 }, rfl⟩
  | mPut => exact .inr (by rw [h.user, h.password]; rfl)
  | rStart hr => rw [h.rst] at hr; cases hr
  | rRecv hr | rFail hr | rPut hr | rQuit hr | rJoin hr | rPoolWait hr | rLock hr | rAdd hr => exact absurd h.rst hr.1
  | failurePut _ msg => exact absurd ⟨msg, rfl⟩ hf
  | excFailurePut _ _ hp => rw [h.pendFal] at hp; cases hp
  | tStart _ ht | tDec _ ht | task _ ht => exact (hT ht).elim
  | lsnRead hw kind hi =>
    cases hw with
    | own _ ht | foreign _ ht => exact (hT ht).elim
    | ext =>
      obtain ⟨hu, rfl⟩ := istep_lsnRead_untouched (h.items x) hi
      have hm : (markFal s tid x kind).pendFal = s.pendFal := by
        unfold markFal readCode; rw [(h.items x).1]
      refine .inl ⟨{ h with tasks := by simp [DState.lifted, isubs, h.tasks], pendFal := hm.trans h.pendFal, items := fun y => ?_ }, rfl⟩
      show IUntouched (lk (setItem s.items x _) y)
      rw [lk_setItem]
      split
      · exact hu
      · exact h.items y
  | lsnPut hw hi =>
    cases hw with
    | own _ ht | foreign _ ht => exact (hT ht).elim
    | ext => rw [istep_lsnPut_untouched (h.items x)] at hi; cases hi

theorem greach_first_inv {n : Nat} {u p : Option String} {ioh : Option Bool} {s : DState} {log : List String}
    (h : GReachH n u p ioh s log) :
    (log = [] ∧ GPre u p s) ∨ ∃ rest, log = ("1|" ++ writeCredentials u p) :: rest := by
  induction h with
  | init => exact Or.inl ⟨rfl, ⟨Nat.zero_lt_two, rfl, rfl, rfl, rfl, rfl, fun y => ⟨rfl, fun _ => rfl⟩⟩⟩
  | step _ hg hguard ih =>
    rcases ih with ⟨rfl, hpre⟩ | ⟨rest, rfl⟩
    · have hf : ¬ ∃ msg, _ = OpClass.failurePut msg := fun hex => by
        have h1 := hguard hex
        have h2 := hpre.mpc
        omega
      rcases hpre.step hg hf with ⟨hpre', he⟩ | he
      · exact Or.inl ⟨by rw [he]; rfl, hpre'⟩
      · exact Or.inr ⟨[], by rw [he]; rfl⟩
    · exact Or.inr ⟨rest ++ genqs _, rfl⟩

/-- **C14 on the whole-server model: the credentials message is the first message enqueued**, on every
    schedule, however early requests are readable and whatever application threads do. -/
theorem greach_first {n : Nat} {u p : Option String} {ioh : Option Bool} {s : DState} {log : List String}
    (h : GReachH n u p ioh s log) :
    ∀ m rest, log = m :: rest → m = "1|" ++ writeCredentials u p := by
  intro m rest hl
  rcases greach_first_inv h with ⟨rfl, _⟩ | ⟨rest', rfl⟩
  · cases hl
  · cases hl; rfl

theorem greachH_items_reach {n : Nat} {u p : Option String} {ioh : Option Bool} {s : DState} {log : List String}
    (h : GReachH n u p ioh s log) : ∀ y, Reach y (getItem s y) := by
  induction h with
  | init => exact fun _ => ⟨[], rfl⟩
  | step _ hg _ ih => exact gstep_reach hg ih

end Ari.Conc
