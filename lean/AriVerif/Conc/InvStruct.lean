import AriVerif.Conc.InvLemmas
/-
  Conc/InvStruct.lean — the bookkeeping half of `Inv`: which instance loops for which generation, and the
  `queued` counter.  These clauses read only `mgrs nmgr active rheld insts ninst` (`Core`), and each speaks of
  one instance (`InstOk`) or one generation (`GenOk`).  `InstOk` / `GenOk` take as arguments exactly the
  components they read, so an update elsewhere leaves them syntactically unchanged (`forall_upd`); every step
  touches one instance and one generation, for which the clauses are re-proved.
-/
namespace Ari.Conc

/-- `decOf s g k` reads the state only at instance `k`; stated on the instance, an update of another instance or of
    any other field leaves the term unchanged. -/
def decI (i : Inst) (g : Nat) : Nat :=
  match i.pc with
  | .dec => if i.gen = g then i.deq else 0
  | _ => 0

theorem decOf_eq (s : IState) (g : Nat) : decOf s g = fun j => decI (s.insts j) g := rfl

def sumDec (insts : Nat → Inst) (n g : Nat) : Nat := sumUpto (fun j => decI (insts j) g) n

theorem Pc.decI_looping {i : Inst} (h : i.pc.looping = true) (g : Nat) : decI i g = 0 := by
  unfold decI; split
  · rename_i e; rw [e] at h; cases h
  · rfl

theorem sumDec_upd (insts : Nat → Inst) {k n : Nat} (i : Inst) (g : Nat) (hk : k < n) :
    sumDec (upd insts k i) n g + decI (insts k) g = sumDec insts n g + decI i g :=
  sumUpto_upd (decI · g) insts i hk

theorem sumDec_upd_same {insts : Nat → Inst} {k : Nat} {i : Inst} (n g : Nat)
    (h : decI i g = decI (insts k) g) : sumDec (upd insts k i) n g = sumDec insts n g :=
  sumUpto_congr fun j _ => upd_proj (decI · g) h j

theorem sumDec_fresh {insts : Nat → Inst} {n : Nat} (g : Nat) (i : Inst) (h : decI i g = 0) :
    sumDec (upd insts n i) (n + 1) g = sumDec insts n g := by
  rw [sumDec, sumUpto, upd_same, h]; exact sumUpto_upd_ge (decI · g) insts i (Nat.le_refl n)

theorem decI_le_sumDec {insts : Nat → Inst} {k n : Nat} (g : Nat) (hk : k < n) : decI (insts k) g ≤ sumDec insts n g :=
  le_sumUpto (f := fun j => decI (insts j) g) hk

structure Core where
  mgrs : Nat → Mgr
  nmgr : Nat
  active : Option Nat
  rheld : Option (Task × Nat)
  insts : Nat → Inst
  ninst : Nat

def core (s : IState) : Core := ⟨s.mgrs, s.nmgr, s.active, s.rheld, s.insts, s.ninst⟩

def rhCount (rheld : Option (Task × Nat)) (g : Nat) : Nat :=
  match rheld with
  | some (_, g') => if g' = g then 1 else 0
  | none => 0

/-- reads the managers only through `loop` (`InstOk.updMgr`). -/
structure InstOk (mgrs : Nat → Mgr) (nmgr j : Nat) (i : Inst) : Prop where
  genLt : i.gen < nmgr
  loopOf : i.pc.looping = true → (mgrs i.gen).loop = some j
  heldDeq : i.pc.looping = true → i.pc.between = false → 1 ≤ i.deq
  lsnInCall : i.lsn ≠ none → ∃ m t, i.pc = .inCall m t
  pcWf : i.pc.wf = true

def Mgr.loopDeq (m : Mgr) (insts : Nat → Inst) : Nat :=
  match m.loop with
  | some k => (insts k).deq
  | none => 0

structure GenOk (insts : Nat → Inst) (ninst : Nat) (rheld : Option (Task × Nat)) (active : Option Nat)
    (g : Nat) (m : Mgr) : Prop where
  loop : ∀ k, m.loop = some k →
    k < ninst ∧ (insts k).gen = g ∧ (insts k).pc.looping = true ∧ ((insts k).deq = 0 → m.q ≠ [])
  running : m.running = m.loop.isSome
  noLostWake : m.q ≠ [] → m.running = true
  counter : m.queued = ((m.q.length + m.loopDeq insts + sumDec insts ninst g + rhCount rheld g : Nat) : Int)
  dead : active ≠ some g → m.q = [] ∧ m.loop = none ∧ m.code = none ∧ m.queued = 0
  registered : active = some g → m.code ≠ none ∨ 0 < m.queued

structure Struct (c : Core) : Prop where
  inst : ∀ j, j < c.ninst → InstOk c.mgrs c.nmgr j (c.insts j)
  gen : ∀ g, g < c.nmgr → GenOk c.insts c.ninst c.rheld c.active g (c.mgrs g)
  activeLt : ∀ g, c.active = some g → g < c.nmgr
  rheldActive : ∀ t g, c.rheld = some (t, g) → c.active = some g

theorem counter_eq (s : IState) (g : Nat) :
    ((s.mgrs g).q.length : Int) + (match (s.mgrs g).loop with | some k => ((s.insts k).deq : Int) | none => 0)
        + (sumUpto (decOf s g) s.ninst : Int) + (match s.rheld with | some (_, g') => if g' = g then 1 else 0 | none => 0)
      = (((s.mgrs g).q.length + (s.mgrs g).loopDeq s.insts + sumDec s.insts s.ninst g + rhCount s.rheld g : Nat) : Int) := by
  simp only [Mgr.loopDeq, rhCount, sumDec, decOf_eq]
  -- both sides are the same sum, on the left of casts and on the right a cast of the sum: by cases on the two matches
  cases (s.mgrs g).loop <;> rcases s.rheld with _ | ⟨_, g'⟩ <;> simp only []
  all_goals (try split)
  all_goals omega

theorem Inv.struct {s : IState} (h : Inv s) : Struct (core s) where
  inst j hj := ⟨h.genLt j hj, h.loopOf j hj, h.heldDeq j hj, h.lsnInCall j hj, h.pcWf j hj⟩
  gen g hg :=
    { loop := fun k hk => let ⟨a, b, c⟩ := h.loopInst g hg k hk; ⟨a, b, c, h.firstPop g hg k hk⟩
      running := h.running g hg
      noLostWake := h.noLostWake g hg
      counter := (h.counter g hg).trans (counter_eq s g)
      dead := h.dead g hg
      registered := h.registered g }
  activeLt := h.activeLt
  rheldActive := h.rheldActive

theorem Struct.active_of_looping {c : Core} (h : Struct c) {k : Nat} (hk : k < c.ninst)
    (hl : (c.insts k).pc.looping = true) : c.active = some (c.insts k).gen :=
  Classical.byContradiction fun hc =>
    nomatch ((h.gen _ (h.inst k hk).genLt).dead hc).2.1.symm.trans ((h.inst k hk).loopOf hl)

theorem Struct.cur_of_looping {s : IState} (h : Struct (core s)) {k : Nat} (hk : k < s.ninst)
    (hl : (s.insts k).pc.looping = true) : cur s = some k := by
  simp [cur, show s.active = _ from h.active_of_looping hk hl, show (s.mgrs _).loop = _ from (h.inst k hk).loopOf hl]

theorem Mgr.loopDeq_upd {m : Mgr} {insts : Nat → Inst} {k : Nat} {i : Inst}
    (h : m.loop = some k → i.deq = (insts k).deq) : m.loopDeq (upd insts k i) = m.loopDeq insts := by
  unfold Mgr.loopDeq; split
  · rename_i k' e; rw [upd_apply]; split
    · subst_vars; exact h e
    · rfl
  · rfl

theorem GenOk.updInst {insts : Nat → Inst} {n : Nat} {rh : Option (Task × Nat)} {act : Option Nat} {g : Nat}
    {m : Mgr} (h : GenOk insts n rh act g m) {k : Nat} {i : Inst}
    (hk : (insts k).gen = g → i.gen = g ∧ i.pc.looping = true ∧ i.deq = (insts k).deq)
    (hd : decI i g = decI (insts k) g) : GenOk (upd insts k i) n rh act g m :=
  { h with
    loop := fun k' e => by
      have := h.loop k' e
      rw [upd_apply]; split
      · subst_vars; have hk := hk this.2.1; exact ⟨this.1, hk.1, hk.2.1, fun hd => this.2.2.2 (hk.2.2 ▸ hd)⟩
      · exact this
    counter := by rw [Mgr.loopDeq_upd fun e => (hk (h.loop k e).2.1).2.2, sumDec_upd_same _ _ hd]; exact h.counter }

theorem InstOk.updMgr {mgrs : Nat → Mgr} {nmgr j : Nat} {i : Inst} (h : InstOk mgrs nmgr j i) {g : Nat} {m' : Mgr}
    (hl : i.gen = g → (mgrs g).loop = some j → m'.loop = some j) : InstOk (upd mgrs g m') nmgr j i :=
  { h with
    loopOf := fun e => by
      rw [upd_apply]; split
      · rename_i hg; exact hl hg (hg ▸ h.loopOf e)
      · exact h.loopOf e }

theorem InstOk.updMgr_sameLoop {mgrs : Nat → Mgr} {nmgr j : Nat} {i : Inst} (h : InstOk mgrs nmgr j i) {g : Nat} {m' : Mgr}
    (hl : m'.loop = (mgrs g).loop) : InstOk (upd mgrs g m') nmgr j i :=
  h.updMgr fun _ => hl.trans

theorem Struct.setInst {c : Core} (h : Struct c) {k : Nat} {p' : Pc} {o : Bool} {l : Option String}
    (hk : k < c.ninst) (hl : (c.insts k).pc.looping = true) (hl' : p'.looping = true)
    (hb : p'.between = false → 1 ≤ (c.insts k).deq) (hlsn : l ≠ none → ∃ m t, p' = .inCall m t)
    (hwf : p'.wf = true) :
    Struct { c with insts := upd c.insts k { c.insts k with pc := p', ok := o, lsn := l } } :=
  have hi := h.inst k hk
  { h with
    inst := forall_upd (fun j hj _ => h.inst j hj) ⟨hi.genLt, fun _ => hi.loopOf hl, fun _ => hb, hlsn, hwf⟩
    gen := fun g hg => (h.gen g hg).updInst (fun e => ⟨e, hl', rfl⟩)
      (by rw [Pc.decI_looping hl, Pc.decI_looping (i := { c.insts k with pc := p', ok := o, lsn := l }) hl']) }

theorem Struct.pop {c : Core} (h : Struct c) {k : Nat} {t : Task} {rest : List Task} {p' : Pc} {o : Bool}
    (hk : k < c.ninst) (hl : (c.insts k).pc.looping = true) (hq : (c.mgrs (c.insts k).gen).q = t :: rest)
    (hlsn : (c.insts k).lsn = none) (hl' : p'.looping = true) (hwf : p'.wf = true) :
    Struct { c with mgrs := upd c.mgrs (c.insts k).gen { c.mgrs (c.insts k).gen with q := rest }
                    insts := upd c.insts k { c.insts k with ok := o, deq := (c.insts k).deq + 1, pc := p' } } :=
  have hi := h.inst k hk
  have hloop := hi.loopOf hl
  have hG := h.gen _ hi.genLt
  have hd : ∀ g, decI { c.insts k with ok := o, deq := (c.insts k).deq + 1, pc := p' } g = decI (c.insts k) g :=
    fun g => by rw [Pc.decI_looping hl, Pc.decI_looping hl']
  have hi' : InstOk c.mgrs c.nmgr k { c.insts k with ok := o, deq := (c.insts k).deq + 1, pc := p' } :=
    ⟨hi.genLt, fun _ => hloop, fun _ _ => Nat.le_add_left 1 _, fun e => absurd hlsn e, hwf⟩
  { h with
    inst := fun j hj => (forall_upd (fun j hj _ => h.inst j hj) hi' j hj).updMgr_sameLoop rfl
    gen := forall_upd
      (fun g hg hne => (h.gen g hg).updInst (fun e => absurd e.symm hne) (hd g))
      { hG with
        loop := fun k' e => by
          cases hloop.symm.trans e
          simp only [upd_same]; exact ⟨hk, trivial, hl', nofun⟩
        noLostWake := fun _ => hG.noLostWake (by rw [hq]; nofun)
        counter := by
          have := hG.counter
          simp only [Mgr.loopDeq, hloop, upd_same, hq, List.length_cons, sumDec_upd_same _ _ (hd _)] at this ⊢
          omega
        dead := fun ha => absurd (h.active_of_looping hk hl) ha } }

theorem GenOk.congr {insts : Nat → Inst} {n : Nat} {rh rh' : Option (Task × Nat)} {act act' : Option Nat} {g : Nat}
    {m : Mgr} (h : GenOk insts n rh act g m) (hrh : rhCount rh' g = rhCount rh g)
    (hact : act' = some g ↔ act = some g) : GenOk insts n rh' act' g m :=
  { h with
    counter := by rw [hrh]; exact h.counter
    dead := fun e => h.dead fun e' => e (hact.mpr e')
    registered := fun e => h.registered (hact.mp e) }

theorem Struct.setCode {c : Core} (h : Struct c) {g : Nat} (x : Option String) (ha : c.active = some g)
    (hx : x = none → 0 < (c.mgrs g).queued) :
    Struct { c with mgrs := upd c.mgrs g { c.mgrs g with code := x } } :=
  have hG := h.gen g (h.activeLt g ha)
  { h with
    inst := fun j hj => (h.inst j hj).updMgr_sameLoop rfl
    gen := forall_upd (fun g' hg' _ => h.gen g' hg')
      { hG with
        dead := fun e => absurd ha e
        registered := fun _ => (Classical.em (x = none)).symm.imp id hx } }

theorem Struct.arrive {c : Core} (h : Struct c) {g : Nat} (t : Task) (ha : c.active = some g)
    (hr : c.rheld = none) :
    Struct { c with mgrs := upd c.mgrs g { c.mgrs g with queued := (c.mgrs g).queued + 1 }
                    rheld := some (t, g) } :=
  have hG := h.gen g (h.activeLt g ha)
  { h with
    inst := fun j hj => (h.inst j hj).updMgr_sameLoop rfl
    gen := forall_upd
      (fun g' hg' hne => (h.gen g' hg').congr (by simp [rhCount, hr, Ne.symm hne]) .rfl)
      { hG with
        counter := by
          have := hG.counter
          simp only [Mgr.loopDeq, rhCount, hr, if_true] at this ⊢
          omega
        dead := fun e => absurd ha e
        registered := fun _ => (hG.registered ha).imp id fun _ => by show (0 : Int) < _ + 1; omega }
    rheldActive := fun _ _ e => by cases e; exact ha }

theorem Struct.addTask {c : Core} (h : Struct c) {t : Task} {g : Nat} (hr : c.rheld = some (t, g))
    (hrun : (c.mgrs g).running = true) :
    Struct { c with mgrs := upd c.mgrs g { c.mgrs g with q := (c.mgrs g).q ++ [t] }, rheld := none } :=
  have ha := h.rheldActive t g hr
  have hG := h.gen g (h.activeLt g ha)
  { h with
    inst := fun j hj => (h.inst j hj).updMgr_sameLoop rfl
    gen := forall_upd
      (fun g' hg' hne => (h.gen g' hg').congr (by simp [rhCount, hr, Ne.symm hne]) .rfl)
      { hG with
        loop := fun k e => let ⟨a, b, c, _⟩ := hG.loop k e; ⟨a, b, c, fun _ => by simp⟩
        noLostWake := fun _ => hrun
        counter := by
          have := hG.counter
          simp only [Mgr.loopDeq, rhCount, hr, if_true, List.length_append, List.length_singleton] at this ⊢
          omega
        dead := fun e => absurd ha e }
    rheldActive := nofun }

theorem Struct.exit {c : Core} (h : Struct c) {k : Nat} (b o : Bool) (hk : k < c.ninst)
    (hpc : (c.insts k).pc = .atLoop) (hq : (c.mgrs (c.insts k).gen).q = []) :
    Struct { c with
      mgrs := upd c.mgrs (c.insts k).gen { c.mgrs (c.insts k).gen with running := false, lastOk := b, loop := none }
      insts := upd c.insts k { c.insts k with pc := .dec, ok := o } } :=
  have hl : (c.insts k).pc.looping = true := by rw [hpc]; rfl
  have hi := h.inst k hk
  have hloop := hi.loopOf hl
  have hG := h.gen _ hi.genLt
  have hs := sumDec_upd c.insts { c.insts k with pc := .dec, ok := o } (c.insts k).gen hk
  have hi' : InstOk _ c.nmgr k { c.insts k with pc := .dec, ok := o } :=
    ⟨hi.genLt, nofun, nofun, fun e => let ⟨_, _, e'⟩ := hi.lsnInCall e; (nomatch hpc.symm.trans e'), rfl⟩
  { h with
    inst := forall_upd
      (fun j hj hne => (h.inst j hj).updMgr fun _ e => absurd (Option.some.inj (e.symm.trans hloop)) hne) hi'
    gen := forall_upd
      (fun g hg hne => (h.gen g hg).updInst (fun e => absurd e.symm hne)
        (by rw [Pc.decI_looping hl]; simp only [decI]; exact if_neg (Ne.symm hne)))
      { loop := nofun
        running := rfl
        noLostWake := fun e => absurd hq e
        counter := by
          have := hG.counter
          simp only [decI, hpc, if_true] at hs
          simp only [Mgr.loopDeq, hloop] at this ⊢
          omega
        dead := fun e => absurd (h.active_of_looping hk hl) e
        registered := hG.registered } }

theorem Struct.arriveFresh {c : Core} (h : Struct c) (t : Task) (ha : c.active = none) (hr : c.rheld = none) :
    Struct { c with mgrs := upd c.mgrs c.nmgr { queued := 1 }, nmgr := c.nmgr + 1, active := some c.nmgr,
                     rheld := some (t, c.nmgr) } where
  inst j hj :=
    have o := h.inst j hj
    { o.updMgr fun e => absurd e (Nat.ne_of_lt o.genLt) with genLt := Nat.lt_succ_of_lt o.genLt }
  gen := forall_upd (n := c.nmgr + 1)
    (fun g hg hne => (h.gen g (by omega)).congr (by simp [rhCount, hr, Ne.symm hne])
      ⟨fun e => absurd (Option.some.inj e).symm hne, fun e => by rw [ha] at e; cases e⟩)
    ⟨nofun, rfl, fun e => absurd rfl e, by
      have : sumDec c.insts c.ninst c.nmgr = 0 := sumUpto_zero fun j hj => by
        have := (h.inst j hj).genLt
        simp only [decI]; split
        · exact if_neg (by omega)
        · rfl
      simp [Mgr.loopDeq, rhCount, this], fun e => absurd rfl e, fun _ => .inr (by decide)⟩
  activeLt g e := by cases e; exact Nat.lt_succ_self _
  rheldActive _ _ e := by cases e; rfl

theorem GenOk.fresh {insts : Nat → Inst} {n : Nat} {rh : Option (Task × Nat)} {act : Option Nat} {g : Nat}
    {m : Mgr} (h : GenOk insts n rh act g m) {i : Inst} (hd : decI i g = 0) :
    GenOk (upd insts n i) (n + 1) rh act g m :=
  { h with
    loop := fun k e => by
      have := h.loop k e
      rw [upd_other _ _ _ _ (Nat.ne_of_lt this.1)]; exact ⟨Nat.lt_succ_of_lt this.1, this.2⟩
    counter := by
      rw [Mgr.loopDeq_upd fun e => absurd (h.loop n e).1 (Nat.lt_irrefl n), sumDec_fresh g i hd]; exact h.counter }

theorem Struct.submit {c : Core} (h : Struct c) {t : Task} {g : Nat} (hr : c.rheld = some (t, g))
    (hrun : (c.mgrs g).running = false) :
    Struct { c with
      mgrs := upd c.mgrs g { c.mgrs g with q := (c.mgrs g).q ++ [t], running := true, loop := some c.ninst }
      rheld := none, insts := upd c.insts c.ninst { gen := g }, ninst := c.ninst + 1 } :=
  have ha := h.rheldActive t g hr
  have hg := h.activeLt g ha
  have hG := h.gen g hg
  have hloop : (c.mgrs g).loop = none := by simpa [hrun] using hG.running
  { h with
    inst := forall_upd (n := c.ninst + 1)
      (fun j hj hne => (h.inst j (by omega)).updMgr fun _ e => nomatch hloop.symm.trans e)
      ⟨hg, fun _ => by simp only [upd_same], fun _ => nofun, fun e => absurd rfl e, rfl⟩
    gen := forall_upd
      (fun g' hg' hne => ((h.gen g' hg').fresh (by simp only [decI])).congr
        (by simp [rhCount, hr, Ne.symm hne]) .rfl)
      { loop := fun k e => by
          cases e; simp only [upd_same]; exact ⟨Nat.lt_succ_self _, trivial, rfl, fun _ => by simp⟩
        running := rfl
        noLostWake := fun _ => rfl
        counter := by
          have := hG.counter
          simp only [sumDec_fresh g { gen := g } (by simp only [decI]), Mgr.loopDeq, hloop, upd_same,
            rhCount, hr, if_true, List.length_append, List.length_singleton] at this ⊢
          omega
        dead := fun e => absurd ha e
        registered := hG.registered }
    rheldActive := nofun }

/-- both branches of `_dec_queued`: `a'` is `none` for `dec_remove` and `c.active` for `dec_keep`. -/
theorem Struct.decGen {c : Core} (h : Struct c) {k g : Nat} (a' : Option Nat) (hk : k < c.ninst)
    (hpc : (c.insts k).pc = .dec) (hg : (c.insts k).gen = g)
    (hoth : ∀ g', g' ≠ g → (a' = some g' ↔ c.active = some g'))
    (hdead : a' ≠ some g → (c.mgrs g).q = [] ∧ (c.mgrs g).loop = none ∧ (c.mgrs g).code = none ∧
      (c.mgrs g).queued - ((c.insts k).deq : Int) = 0)
    (hreg : a' = some g → (c.mgrs g).code ≠ none ∨ (c.insts k).deq < (c.mgrs g).queued)
    (hlt : ∀ g, a' = some g → g < c.nmgr) (hrh : ∀ t g, c.rheld = some (t, g) → a' = some g) :
    Struct { c with mgrs := upd c.mgrs g { c.mgrs g with queued := (c.mgrs g).queued - (c.insts k).deq }
                    active := a', insts := upd c.insts k { c.insts k with pc := .done } } := by
  subst hg
  have hi := h.inst k hk
  have hG := h.gen _ hi.genLt
  have hnl : (c.mgrs _).loop ≠ some k := fun e => by
    have := (hG.loop k e).2.2.1; rw [hpc] at this; cases this
  have hs := sumDec_upd c.insts { c.insts k with pc := .done } (c.insts k).gen hk
  simp only [decI, hpc, if_true] at hs
  have hi' : InstOk c.mgrs c.nmgr k { c.insts k with pc := .done } :=
    ⟨hi.genLt, nofun, nofun, fun e => let ⟨_, _, e'⟩ := hi.lsnInCall e; (nomatch hpc.symm.trans e'), rfl⟩
  exact {
    inst := fun j hj => (forall_upd (fun j hj _ => h.inst j hj) hi' j hj).updMgr_sameLoop rfl
    gen := forall_upd
      (fun g hg hne => ((h.gen g hg).updInst (fun e => absurd e.symm hne)
        (by simp only [decI, hpc, if_neg (Ne.symm hne)])).congr rfl (hoth g hne))
      { loop := fun k' e => by
          simp only [upd_other _ _ _ _ fun e' : k' = k => hnl (e' ▸ e)]; exact hG.loop k' e
        running := hG.running
        noLostWake := hG.noLostWake
        counter := by
          have := hG.counter
          -- the manager in the goal is the updated record: rewrite backwards in `this`, where it is `c.mgrs _`
          rw [← Mgr.loopDeq_upd (i := { c.insts k with pc := .done }) fun e => absurd e hnl] at this
          simp only [Mgr.loopDeq] at this ⊢
          omega
        dead := hdead
        registered := fun ha => (hreg ha).imp id fun _ => by show (0 : Int) < _ - _; omega }
    activeLt := hlt
    rheldActive := hrh }

end Ari.Conc
