import Std.Data.String.ToNat
import AriVerif.Conc.ListLemmas
/-
  Conc/Threads.lean — what the two whole-server models share.  Thread names (`Conc/Data.lean`, `Conc/MetaSrv.lean`): "P" the peer,
  "M" the thread that calls `start()`, "R" the reader, "W" the writer, "T<n>" the thread of pool task `n` (1-based), "E<n>"
  an adapter-owned thread.  And what is said of both in the same words: the bookkeeping of the send queue under a failing
  write (`SendLog`), the stop pills in it (`pills`), the default reaction to an I/O failure.
-/
namespace Ari.Conc

/-- not one of the four fixed threads (peer, starting thread, reader, writer): a pool or an application thread. -/
structure Other (tid : String) : Prop where
  ne_P : tid ≠ "P"
  ne_M : tid ≠ "M"
  ne_R : tid ≠ "R"
  ne_W : tid ≠ "W"

structure IsTask (tid : String) (n : Nat) : Prop where
  other : Other tid
  startsWith : tid.startsWith "T" = true
  num : (tid.drop 1).toString.toNat? = some n

/-- the name of pool thread `k` (0-based) as the co-simulation writes it. -/
def tname (k : Nat) : String := "T" ++ toString (k + 1)

theorem tname_drop (k : Nat) : ((tname k).drop 1).toString.toNat? = some (k + 1) := by
  have : ((tname k).drop 1).toString = toString (k + 1) := by
    apply String.toList_injective
    simp [tname]
  rw [this]
  exact Nat.toNat?_repr (k + 1)

theorem tname_ne (k : Nat) : tname k ≠ "P" ∧ tname k ≠ "M" ∧ tname k ≠ "R" ∧ tname k ≠ "W" := by
  refine ⟨?_, ?_, ?_, ?_⟩ <;>
    (intro h
     have := congrArg String.toList h
     simp [tname] at this)

theorem tname_startsWith (k : Nat) : (tname k).startsWith "T" = true := by
  simp [tname]

theorem isTask_tname (k : Nat) : IsTask (tname k) (k + 1) :=
  have ⟨h1, h2, h3, h4⟩ := tname_ne k
  ⟨⟨h1, h2, h3, h4⟩, tname_startsWith k, tname_drop k⟩

/-- **the send queue neither duplicates nor reorders, and loses at most the one message a failed write had in hand**, as
    a fact about lists: the log of everything enqueued is written ++ lost ++ held ++ queued with `lost` empty unless a write
    has failed (`f`) and then of at most one element. -/
def SendLog (log w h q : List String) (f : Prop) : Prop :=
  ∃ lost : List String, lost.length ≤ 1 ∧ (¬ f → lost = []) ∧ log = w ++ lost ++ h ++ q

/-- a step that extends written ++ held ++ queued by exactly what it enqueues keeps it; once the writer is dead (`f`) the
    other threads leave `written` and `held` alone. -/
theorem SendLog.append {w w' h h' q q' enq log : List String} {f f' : Prop} (ih : SendLog log w h q f)
    (hp : w' ++ h' ++ q' = w ++ h ++ q ++ enq) (hdead : f → f' ∧ w' = w ∧ h' = h) :
    SendLog (log ++ enq) w' h' q' f' := by
  obtain ⟨lost, hl, hne, rfl⟩ := ih
  by_cases hf : f
  · obtain ⟨hf', rfl, rfl⟩ := hdead hf
    refine ⟨lost, hl, fun h => absurd hf' h, ?_⟩
    have hq : q' = q ++ enq := by simpa using hp
    simp [hq]
  · cases hne hf
    exact ⟨[], by simp, fun _ => rfl, by simpa using hp.symm⟩

/-- the failing write drops the message held: it is the one lost message. -/
theorem SendLog.drop {w q log : List String} {m : String} {f f' : Prop} (ih : SendLog log w [m] q f) (hf : ¬ f)
    (hf' : f') : SendLog log w [] q f' := by
  obtain ⟨lost, -, hne, rfl⟩ := ih
  cases hne hf
  exact ⟨[m], by simp, fun h => absurd hf' h, by simp⟩

theorem SendLog.written_prefix {w h q log : List String} {f : Prop} (hl : SendLog log w h q f) : w <+: log := by
  obtain ⟨lost, -, -, rfl⟩ := hl
  exact ⟨lost ++ h ++ q, by simp⟩

theorem SendLog.pending {w h q log : List String} {f : Prop} (hl : SendLog log w h q f) (hf : ¬ f) :
    w ++ h ++ q = log := by
  obtain ⟨lost, -, hne, rfl⟩ := hl
  rw [hne hf, List.append_nil]

/-- `on_ioexception` ends the process unless a handler is installed and returns a false value. -/
theorem default_of_exits {h : Option Bool} (hx : (match h with | none => true | some r => r) = true) :
    h = none ∨ h = some true := by
  cases h with
  | none => exact .inl rfl
  | some r => exact .inr (congrArg some hx)

def pills (q : List (Option String)) : Nat := (q.filter (· = none)).length

theorem pills_snoc_some (q : List (Option String)) (l : String) : pills (q ++ [some l]) = pills q := by
  simp [pills, List.filter_append]

theorem pills_append_somes (q : List (Option String)) (ls : List String) :
    pills (q ++ ls.map some) = pills q := by
  simp [pills, List.filter_append, List.filter_map]

theorem pills_snoc_none (q : List (Option String)) : pills (q ++ [none]) = pills q + 1 := by
  simp [pills, List.filter_append]

theorem pills_cons_some (q : List (Option String)) (l : String) : pills (some l :: q) = pills q := by
  simp [pills]

theorem pills_cons_none (q : List (Option String)) : pills (none :: q) = pills q + 1 := by
  simp [pills]

end Ari.Conc
