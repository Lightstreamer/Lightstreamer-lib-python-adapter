import AriVerif.Conc.MetaSrv
import AriVerif.Conc.Threads
import AriVerif.Lemmas.Dispatch
/-
  Conc/MetaStep.lean — the Metadata server model (`Conc/MetaSrv.lean`) taken apart once: what `runLocal` and `liftPool` do,
  and `MStepKind`, the steps of `mstep` as an inductive relation with one constructor per kind of step and the exact
  successor state.  Every theorem about the model argues by cases on `MStepKind`; `mstep` itself is unfolded here only.
-/
namespace Ari.Conc

/-- the pool task the reader creates for a `.submit` action (none if the arguments do not decode). -/
def submitTask : RAct → Option PTask
  | .submit m id toks =>
    match decodeRequest m toks with
    | some (.ok a) => some { rid := id, method := m, args := a }
    | _ => none
  | _ => none

def addTasks (p : PState) (ts : List PTask) : PState :=
  { p with tasks := p.tasks ++ ts, workQ := p.workQ ++ List.range' p.tasks.length ts.length }

theorem addTasks_nil (p : PState) : addTasks p [] = p := by simp [addTasks]

theorem addTasks_addTasks (p : PState) (l1 l2 : List PTask) : addTasks (addTasks p l1) l2 = addTasks p (l1 ++ l2) := by
  simp only [addTasks, List.length_append, List.append_assoc, ← List.range'_append_1]

/-- the reader parks only where it is about to enqueue (a reply, the stop pill) or to wait (writer join / pool shutdown):
    every other action is local and `runLocal` runs through it. -/
def RqHead : List RAct → Prop
  | [] => True
  | .reply _ :: _ => True
  | .quit :: _ => True
  | .poolShutdown :: _ => True
  | _ :: _ => False

/-- the reader runs through the prefix `pre` of `acts`, up to the first action it parks at: the tasks of that prefix are
    submitted to the pool, which becomes `p'`; the rest `rq'` stays in its list; the only effects `e` are submissions and
    exception-handler notifications. -/
structure LocalSpec (s : MState) (acts pre : List RAct) (p' : PState) (rq' : List RAct) (e : List MEff) : Prop where
  split : acts = pre ++ rq'
  head : RqHead rq'
  locals : ∀ a ∈ pre, a ≠ .quit ∧ a ≠ .poolShutdown ∧ ∀ l, a ≠ .reply l
  pool : p' = addTasks s.pool (pre.filterMap submitTask)
  effs : ∀ x ∈ e, (∃ n, x = .submit n) ∨ x = .handlerExc

theorem LocalSpec.park (s : MState) {rq : List RAct} (h : RqHead rq) : LocalSpec s rq [] s.pool rq [] :=
  ⟨rfl, h, by simp, (addTasks_nil _).symm, by simp⟩

/-- one more action in front: a local one (`submitTask a = none`), or a submission that the pool accepts. -/
theorem LocalSpec.cons {s : MState} {a : RAct} {rest pre : List RAct} {p' : PState} {rq' : List RAct} {e0 e : List MEff}
    (ha : a ≠ .quit ∧ a ≠ .poolShutdown ∧ ∀ l, a ≠ .reply l) (he0 : ∀ x ∈ e0, (∃ n, x = .submit n) ∨ x = .handlerExc)
    (h : LocalSpec { s with pool := addTasks s.pool (submitTask a).toList } rest pre p' rq' e) :
    LocalSpec s (a :: rest) (a :: pre) p' rq' (e0 ++ e) := by
  refine ⟨by rw [List.cons_append, ← h.split], h.head, ?_, ?_, ?_⟩
  · intro b hb
    rcases List.mem_cons.1 hb with rfl | hb
    · exact ha
    · exact h.locals b hb
  · rw [h.pool, addTasks_addTasks, List.filterMap_cons]
    cases submitTask a <;> rfl
  · intro x hx
    rcases List.mem_append.1 hx with hx | hx
    · exact he0 x hx
    · exact h.effs x hx

theorem runLocal_spec (s : MState) (acts : List RAct) :
    ∃ pre, (runLocal s acts).1 = { s with pool := (runLocal s acts).1.pool, rq := (runLocal s acts).1.rq } ∧
      LocalSpec s acts pre (runLocal s acts).1.pool (runLocal s acts).1.rq (runLocal s acts).2 := by
  -- a local action that submits nothing leaves the pool as it is
  have skip : ∀ {a : RAct} {rest pre : List RAct} {s : MState} {p' : PState} {rq' : List RAct} {e : List MEff}
      (e0 : List MEff), submitTask a = none → (a ≠ .quit ∧ a ≠ .poolShutdown ∧ ∀ l, a ≠ .reply l) →
      (∀ x ∈ e0, (∃ n, x = .submit n) ∨ x = .handlerExc) →
      LocalSpec s rest pre p' rq' e → LocalSpec s (a :: rest) (a :: pre) p' rq' (e0 ++ e) := fun e0 hs ha he0 h =>
    .cons ha he0 (by rw [hs, Option.toList_none, addTasks_nil]; exact h)
  induction acts generalizing s with
  | nil => exact ⟨[], rfl, .park s trivial⟩
  | cons a rest ih =>
    cases a with
    | reply l | quit | poolShutdown => exact ⟨[], rfl, .park s trivial⟩
    | handlerExc =>
      obtain ⟨pre, hf, hl⟩ := ih s
      exact ⟨_, hf, skip [.handlerExc] rfl (by simp) (by simp) hl⟩
    | submit m id toks =>
      simp only [runLocal]
      cases hd : decodeRequest m toks with
      | none =>
        obtain ⟨pre, hf, hl⟩ := ih s
        exact ⟨_, hf, skip [] (by simp [submitTask, hd]) (by simp) (by simp) hl⟩
      | some r =>
        cases r with
        | error e =>
          obtain ⟨pre, hf, hl⟩ := ih s
          exact ⟨_, hf, skip [] (by simp [submitTask, hd]) (by simp) (by simp) hl⟩
        | ok a =>
          have hp : addTasks s.pool (submitTask (.submit m id toks)).toList = { s.pool with
              tasks := s.pool.tasks ++ [{ rid := id, method := m, args := a }],
              workQ := s.pool.workQ ++ [s.pool.tasks.length] } := by simp [submitTask, hd, addTasks]
          obtain ⟨pre, hf, hl⟩ := ih { s with pool := { s.pool with
            tasks := s.pool.tasks ++ [{ rid := id, method := m, args := a }],
            workQ := s.pool.workQ ++ [s.pool.tasks.length] } }
          exact ⟨_, hf, .cons (e0 := [.submit _]) (by simp) (by simp) (by rw [hp]; exact hl)⟩
    | _ =>
      obtain ⟨pre, hf, hl⟩ := ih s
      exact ⟨_, hf, skip [] rfl (by simp) (by simp) hl⟩

/-- the reader runs through its local actions `acts` from `s`: the pool becomes `p'`, its list `rq'`, with effects `e`;
    nothing else changes. -/
def RunsLocal (s : MState) (acts : List RAct) (p' : PState) (rq' : List RAct) (e : List MEff) : Prop :=
  runLocal s acts = ({ s with pool := p', rq := rq' }, e)

theorem runsLocal {s : MState} {acts : List RAct} {s' : MState} {e : List MEff} (h : runLocal s acts = (s', e)) :
    s' = { s with pool := s'.pool, rq := s'.rq } ∧ RunsLocal s acts s'.pool s'.rq e := by
  obtain ⟨pre, hf, -⟩ := runLocal_spec s acts
  rw [h] at hf
  exact ⟨hf, h.trans (by rw [← hf])⟩

theorem RunsLocal.spec {s : MState} {acts : List RAct} {p' : PState} {rq' : List RAct} {e : List MEff}
    (h : RunsLocal s acts p' rq' e) : ∃ pre, LocalSpec s acts pre p' rq' e := by
  obtain ⟨pre, -, hl⟩ := runLocal_spec s acts
  rw [h] at hl
  exact ⟨pre, hl⟩

theorem RunsLocal.effs {s : MState} {acts : List RAct} {p' : PState} {rq' : List RAct} {e : List MEff}
    (h : RunsLocal s acts p' rq' e) {x : MEff} (hx : x ∈ e) : (∃ n, x = .submit n) ∨ x = .handlerExc :=
  let ⟨_, hl⟩ := h.spec
  hl.effs x hx

theorem RunsLocal.not_mem {s : MState} {acts : List RAct} {p' : PState} {rq' : List RAct} {e : List MEff}
    (h : RunsLocal s acts p' rq' e) {x : MEff} (hs : ∀ n, x ≠ .submit n) (hh : x ≠ .handlerExc) : x ∉ e := fun hx =>
  (h.effs hx).elim (fun ⟨n, e⟩ => hs n e) hh

def enqs (effs : List MEff) : List String :=
  effs.filterMap fun e => match e with | .enqueue l => some l | _ => none

def peffLines (effs : List PEff) : List String :=
  effs.filterMap fun e => match e with | .enqueue l => some l | _ => none

/-- pool effects in the server's vocabulary; `b`: an exception handler is installed. -/
def liftPEffs (b : Bool) : List PEff → List MEff
  | [] => []
  | .enqueue l :: e => .enqueue l :: liftPEffs b e
  | .adapterBegin c :: e => .adapterBegin (Proto.showCall c) :: liftPEffs b e
  | .adapterEnd c :: e => .adapterEnd c.name :: liftPEffs b e
  | .handlerExc :: e => if b then .handlerExc :: liftPEffs b e else liftPEffs b e

theorem enqs_liftPEffs (b : Bool) (pe : List PEff) : enqs (liftPEffs b pe) = peffLines pe := by
  induction pe with
  | nil => rfl
  | cons x e ih => cases x <;> cases b <;> simp_all [liftPEffs, enqs, peffLines]

/-- the fold function of `liftPool`. -/
def liftF (b : Bool) (acc : MState × List MEff) (e : PEff) : MState × List MEff :=
  match e with
  | .enqueue l => ({ acc.1 with sendQ := acc.1.sendQ ++ [some l] }, acc.2 ++ [.enqueue l])
  | .adapterBegin c => (acc.1, acc.2 ++ [.adapterBegin (Proto.showCall c)])
  | .adapterEnd c => (acc.1, acc.2 ++ [.adapterEnd c.name])
  | .handlerExc => (acc.1, if b then acc.2 ++ [.handlerExc] else acc.2)

theorem foldl_liftF (b : Bool) (pe : List PEff) (acc : MState × List MEff) :
    pe.foldl (liftF b) acc =
      ({ acc.1 with sendQ := acc.1.sendQ ++ (peffLines pe).map some }, acc.2 ++ liftPEffs b pe) := by
  induction pe generalizing acc with
  | nil => simp [peffLines, liftPEffs]
  | cons x e ih =>
    rw [List.foldl_cons, ih]
    cases x <;> cases b <;> simp [liftF, peffLines, liftPEffs]

theorem liftPool_eq (s : MState) (r : Option (PState × List PEff)) :
    liftPool s r = r.map fun x => ({ s with pool := x.1, sendQ := s.sendQ ++ (peffLines x.2).map some },
      liftPEffs s.cfg.excHandler.isSome x.2) := by
  cases r with
  | none => rfl
  | some x =>
    show some ((x.2.foldl (liftF s.cfg.excHandler.isSome) ({ s with pool := x.1 }, [])).1,
      (x.2.foldl (liftF s.cfg.excHandler.isSome) ({ s with pool := x.1 }, [])).2) = _
    rw [foldl_liftF]
    rfl

theorem liftPool_spec {s s' : MState} {r : Option (PState × List PEff)} {effs : List MEff}
    (h : liftPool s r = some (s', effs)) :
    ∃ p pe, r = some (p, pe) ∧ s' = { s with pool := p, sendQ := s.sendQ ++ (peffLines pe).map some } ∧
      effs = liftPEffs s.cfg.excHandler.isSome pe := by
  rw [liftPool_eq] at h
  cases r with
  | none => cases h
  | some x => cases h; exact ⟨x.1, x.2, rfl, rfl, rfl⟩

/-- the state the reader runs its local actions from after receiving chunk `c`. -/
def recvState (s : MState) (env : InitEnv) (c : String) (rest : List String) : MState :=
  { s with inbound := rest, rbuf := (feed s.rbuf c).2, rst := (dispatchAll s.cfg env s.rst (feed s.rbuf c).1).1 }

/-- the reader actions of the lines completed by chunk `c`. -/
def recvActs (s : MState) (env : InitEnv) (c : String) : List RAct :=
  (dispatchAll s.cfg env s.rst (feed s.rbuf c).1).2.flatten

/-- what pool thread `k` (0-based) does, by operation class. -/
def poolAct (k : Nat) : MOp → Option PAct
  | .taskStart => some (.start k)
  | .adapterBegin => some (.callBegin k)
  | .adapterEnd o => some (.callEnd k o)
  | .put => some (.put k)
  | _ => none

theorem poolAct_ne_submit {k : Nat} {op : MOp} {a : PAct} (h : poolAct k op = some a) :
    ∀ r m ar, a ≠ .submit r m ar := by
  unfold poolAct at h
  split at h <;> cases h <;> (intro r m ar hh; cases hh)

/-- the reader (writer) thread has been started and has not left its loop. -/
abbrev MState.readerRuns (s : MState) : Prop := 2 ≤ s.rthr ∧ s.rthr ≠ 3 ∧ s.rthr ≠ 4
abbrev MState.writerRuns (s : MState) : Prop := 2 ≤ s.wthr ∧ s.wthr ≠ 3 ∧ s.wthr ≠ 4

/-- every successful `mstep` is one of these, and conversely (`MStepKind.sound`).  The two reader steps that run `runLocal`
    and the pool-thread steps are given by `runLocal` / `pstep`. -/
inductive MStepKind (s : MState) (env : InitEnv) : String → MOp → MState → List MEff → Prop
  | deliver (c : String) (he : s.inEnd = false) :
      MStepKind s env "P" (.deliver c) { s with inbound := s.inbound ++ [c] } []
  | endOfInput : MStepKind s env "P" .endOfInput { s with inEnd := true } []
  | mStart (h : s.mpc = 0) : MStepKind s env "M" .threadStart { s with mpc := 1, wthr := 1 } []
  | mPut (h : s.mpc = 1) :
      MStepKind s env "M" .put
        { s with sendQ := s.sendQ ++ [some ("1|" ++ writeCredentials none none)], mpc := 2, rthr := 1 }
        [.enqueue ("1|" ++ writeCredentials none none)]
  | rStart (h : s.rthr = 1) : MStepKind s env "R" .threadStart { s with rthr := 2 } []
  | rRecv {c : String} {rest : List String} {p' : PState} {rq' : List RAct} {e : List MEff} (hr : s.readerRuns) (hrq : s.rq = []) (hin : s.inbound = c :: rest)
      (hrun : RunsLocal (recvState s env c rest) (recvActs s env c) p' rq' e) :
      MStepKind s env "R" .recv { recvState s env c rest with pool := p', rq := rq' } e
  | rFail (hr : s.readerRuns) (hrq : s.rq = []) (hin : s.inbound = [])
      (he : s.inEnd = true) : MStepKind s env "R" .recv (ioReport { s with rthr := 4 }) (ioEffects s.cfg)
  | rPut {l : String} {rest : List RAct} {p' : PState} {rq' : List RAct} {e : List MEff} (hr : s.readerRuns) (hrq : s.rq = .reply l :: rest)
      (hrun : RunsLocal { s with sendQ := s.sendQ ++ [some l] } rest p' rq' e) :
      MStepKind s env "R" .put { s with sendQ := s.sendQ ++ [some l], pool := p', rq := rq' } (.enqueue l :: e)
  | rQuit {rest : List RAct} (hr : s.readerRuns) (hrq : s.rq = .quit :: rest) :
      MStepKind s env "R" .put { s with sendQ := s.sendQ ++ [none], rq := rest, cpc := 1 } [.enqueuePill]
  | rJoin {rest : List RAct} (hr : s.readerRuns)
      (hrq : s.rq = .poolShutdown :: rest) (hc : s.cpc = 1) (hw : s.wthr = 3 ∨ s.wthr = 4) :
      MStepKind s env "R" .join { s with cpc := 2 } []
  | rPoolWait {rest : List RAct} (hr : s.readerRuns)
      (hrq : s.rq = .poolShutdown :: .sockClose :: rest) (hc : s.cpc = 2) (hrun : s.pool.running = 0)
      (hq : s.pool.workQ = []) :
      MStepKind s env "R" .poolWait { s with cpc := 3, sockClosed := true, rq := [], rthr := 3 } [.sockClose]
  | wStart (h : s.wthr = 1) : MStepKind s env "W" .threadStart { s with wthr := 2 } []
  | wGet {m : String} {rest : List (Option String)} (hw : s.writerRuns)
      (hws : s.wsend = none) (hq : s.sendQ = some m :: rest) :
      MStepKind s env "W" .get { s with sendQ := rest, wsend := some m } []
  | wPill {rest : List (Option String)} (hw : s.writerRuns) (hws : s.wsend = none)
      (hq : s.sendQ = none :: rest) : MStepKind s env "W" .get { s with sendQ := rest, wthr := 3 } []
  | wSend {m : String} (hw : s.writerRuns) (hws : s.wsend = some m) :
      MStepKind s env "W" .send { s with wsend := none, written := s.written ++ [m] } [.sent (m ++ "\r\n")]
  | wFail {m : String} (hw : s.writerRuns) (hws : s.wsend = some m) :
      MStepKind s env "W" .sendFail (ioReport { s with wsend := none, wthr := 4 }) (ioEffects s.cfg)
  | pool {tid : String} {op : MOp} {n : Nat} {a : PAct} {p : PState} {pe : List PEff} (hT : IsTask tid n)
      (ha : poolAct (n - 1) op = some a) (hp : pstep s.pool a = some (p, pe)) :
      MStepKind s env tid op { s with pool := p, sendQ := s.sendQ ++ (peffLines pe).map some }
        (liftPEffs s.cfg.excHandler.isSome pe)

theorem mstep_not_exited {s s' : MState} {env : InitEnv} {tid : String} {op : MOp} {effs : List MEff}
    (h : mstep s env tid op = some (s', effs)) : s.exited = false := by
  cases hx : s.exited with
  | false => rfl
  | true => unfold mstep at h; rw [if_pos hx] at h; cases h

theorem mstep_kind {s s' : MState} {env : InitEnv} {tid : String} {op : MOp} {effs : List MEff}
    (h : mstep s env tid op = some (s', effs)) : MStepKind s env tid op s' effs := by
  unfold mstep at h
  by_cases hx : s.exited = true
  · rw [if_pos hx] at h; cases h
  rw [if_neg hx] at h
  by_cases hP : tid = "P"
  · rw [if_pos hP] at h
    subst hP
    split at h
    · split at h
      · cases h
      · next he => cases h; exact .deliver _ (by simpa using he)
    · cases h; exact .endOfInput
    · cases h
  rw [if_neg hP] at h
  by_cases hM : tid = "M"
  · rw [if_pos hM] at h
    subst hM
    split at h
    · next hm => cases h; exact .mStart hm
    · next hm => cases h; exact .mPut hm
    · cases h
  rw [if_neg hM] at h
  by_cases hR : tid = "R"
  · rw [if_pos hR] at h
    subst hR
    by_cases h1 : s.rthr = 1
    · rw [if_pos h1] at h
      split at h
      · cases h; exact .rStart h1
      · cases h
    rw [if_neg h1] at h
    by_cases h0 : s.rthr = 0 ∨ s.rthr = 3 ∨ s.rthr = 4
    · rw [if_pos h0] at h; cases h
    rw [if_neg h0] at h
    have hrr : s.readerRuns := by omega
    split at h
    · split at h
      · split at h
        · cases h; exact .rFail hrr ‹_› ‹_› ‹_›
        · cases h
      · next hin =>
        -- found before `hrun` is in the context: against `RunsLocal …` (an equation once unfolded) `‹_›` is slow
        have hrq : s.rq = [] := ‹_›
        obtain ⟨hs, hrun⟩ := runsLocal (Option.some.inj h)
        rw [hs]
        exact .rRecv hrr hrq hin hrun
    · next l rest hrq =>
      cases hr : runLocal { s with sendQ := s.sendQ ++ [some l] } rest with
      | mk s1 e1 =>
        obtain ⟨hs, hrun⟩ := runsLocal hr
        rw [hr] at h
        cases h
        rw [hs]
        exact .rPut hrr hrq hrun
    · cases h; exact .rQuit hrr ‹_›
    · split at h
      · next hc => cases h; exact .rJoin hrr ‹_› hc.1 hc.2
      · cases h
    · split at h
      · next hc => cases h; exact .rPoolWait hrr ‹_› hc.1 hc.2.1 hc.2.2
      · cases h
    · cases h
  rw [if_neg hR] at h
  by_cases hW : tid = "W"
  · rw [if_pos hW] at h
    subst hW
    by_cases h1 : s.wthr = 1
    · rw [if_pos h1] at h
      split at h
      · cases h; exact .wStart h1
      · cases h
    rw [if_neg h1] at h
    by_cases h0 : s.wthr = 0 ∨ s.wthr = 3 ∨ s.wthr = 4
    · rw [if_pos h0] at h; cases h
    rw [if_neg h0] at h
    have hrr : s.writerRuns := by omega
    split at h
    · cases h; exact .wFail hrr ‹_›
    · split at h
      · cases h; exact .wGet hrr ‹_› ‹_›
      · cases h; exact .wPill hrr ‹_› ‹_›
      · cases h
    · cases h; exact .wSend hrr ‹_›
    · cases h
  rw [if_neg hW] at h
  by_cases hsw : tid.startsWith "T" = true
  · rw [if_pos hsw] at h
    split at h
    · cases h
    next n hn =>
    have hT : IsTask tid n := ⟨⟨hP, hM, hR, hW⟩, hsw, hn⟩
    split at h
    all_goals first
      | cases h
      | (obtain ⟨p, pe, hp, rfl, rfl⟩ := liftPool_spec h; exact .pool hT rfl hp)
  rw [if_neg hsw] at h
  cases h

theorem MStepKind.sound {s s' : MState} {env : InitEnv} {tid : String} {op : MOp} {effs : List MEff}
    (hx : s.exited = false) (h : MStepKind s env tid op s' effs) : mstep s env tid op = some (s', effs) := by
  have hx' : ¬ s.exited = true := by simp [hx]
  unfold mstep
  rw [if_neg hx']
  cases h with
  | deliver c he => simp [he]
  | endOfInput => simp
  | mStart h => simp [h]
  | mPut h => simp [h]
  | rStart h => simp [h]
  | rRecv hrw hrq hin hrun =>
    rw [if_neg (by decide), if_neg (by decide), if_pos rfl, if_neg (by omega), if_neg (by omega), ← hrun]
    -- `simp [hrq, hin]` would also rewrite inside the state `runLocal` starts from; make the equations definitional
    cases s
    dsimp only at hrq hin ⊢
    subst hrq hin
    rfl
  | rFail hrw hrq hin he =>
    rw [if_neg (by decide), if_neg (by decide), if_pos rfl, if_neg (by omega), if_neg (by omega)]
    simp only [hrq, hin, he, if_true]
  | rPut hrw hrq hrun =>
    rw [if_neg (by decide), if_neg (by decide), if_pos rfl, if_neg (by omega), if_neg (by omega)]
    cases s
    subst hrq
    dsimp only
    rw [hrun]
  | rQuit hrw hrq =>
    rw [if_neg (by decide), if_neg (by decide), if_pos rfl, if_neg (by omega), if_neg (by omega)]
    simp only [hrq]
  | rJoin hrw hrq hc hw =>
    rw [if_neg (by decide), if_neg (by decide), if_pos rfl, if_neg (by omega), if_neg (by omega)]
    simp only [hrq, if_pos (And.intro hc hw)]
  | rPoolWait hrw hrq hc hr hq =>
    rw [if_neg (by decide), if_neg (by decide), if_pos rfl, if_neg (by omega), if_neg (by omega)]
    simp only [hrq, if_pos (And.intro hc (And.intro hr hq))]
  | wStart h => simp [h]
  | wGet hrw hws hq =>
    rw [if_neg (by decide), if_neg (by decide), if_neg (by decide), if_pos rfl, if_neg (by omega), if_neg (by omega)]
    simp only [hws, hq]
  | wPill hrw hws hq =>
    rw [if_neg (by decide), if_neg (by decide), if_neg (by decide), if_pos rfl, if_neg (by omega), if_neg (by omega)]
    simp only [hws, hq]
  | wSend hrw hws =>
    rw [if_neg (by decide), if_neg (by decide), if_neg (by decide), if_pos rfl, if_neg (by omega), if_neg (by omega)]
    simp only [hws]
  | wFail hrw hws =>
    rw [if_neg (by decide), if_neg (by decide), if_neg (by decide), if_pos rfl, if_neg (by omega), if_neg (by omega)]
    simp only [hws]
  | pool hT ha hp =>
    obtain ⟨⟨h1, h2, h3, h4⟩, h5, h6⟩ := hT
    rw [if_neg h1, if_neg h2, if_neg h3, if_neg h4, if_pos h5]
    simp only [h6]
    unfold poolAct at ha
    split at ha <;> cases ha <;> (dsimp only; rw [hp, liftPool_eq]; rfl)

theorem MStepKind.isSome {s s' : MState} {env : InitEnv} {tid : String} {op : MOp} {effs : List MEff}
    (hx : s.exited = false) (h : MStepKind s env tid op s' effs) : (mstep s env tid op).isSome = true := by
  rw [h.sound hx]; rfl

theorem mstep_isSome_iff {s : MState} {env : InitEnv} {tid : String} {op : MOp} :
    (mstep s env tid op).isSome = true ↔ s.exited = false ∧ ∃ s' effs, MStepKind s env tid op s' effs := by
  refine ⟨fun h => ?_, fun ⟨hx, _, _, hk⟩ => hk.isSome hx⟩
  obtain ⟨⟨s', effs⟩, hg⟩ := Option.isSome_iff_exists.1 h
  exact ⟨mstep_not_exited hg, s', effs, mstep_kind hg⟩

/-- an enabled step of the pool machine is an enabled step of its thread, a library thread. -/
theorem mstep_pool_isSome {s : MState} {env : InitEnv} {k : Nat} {op : MOp} {a : PAct} (hx : s.exited = false)
    (ha : poolAct k op = some a) (hs : (pstep s.pool a).isSome = true) :
    ∃ tid op, (mstep s env tid op).isSome ∧ (tid = "R" ∨ tid = "W" ∨ tid.startsWith "T" = true) := by
  obtain ⟨p, hp⟩ := Option.isSome_iff_exists.1 hs
  exact ⟨tname k, op, (MStepKind.pool (isTask_tname k) ha hp).isSome hx, .inr (.inr (tname_startsWith k))⟩

theorem mstep_io_enabled (s : MState) (env : InitEnv) (hx : s.exited = false) :
    (s.rthr = 2 → s.rq = [] → (s.inbound ≠ [] ∨ s.inEnd = true) → (mstep s env "R" .recv).isSome) ∧
    (s.rthr = 2 → ∀ l rest, s.rq = .reply l :: rest → (mstep s env "R" .put).isSome) ∧
    (s.wthr = 2 → s.wsend = none → s.sendQ ≠ [] → (mstep s env "W" .get).isSome) ∧
    (s.wthr = 2 → ∀ m, s.wsend = some m → (mstep s env "W" .send).isSome) := by
  refine ⟨fun hr hrq hin => ?_, fun hr l rest hrq => ?_, fun hw hws hq => ?_, fun hw m hws => ?_⟩
  · cases hi : s.inbound with
    | nil => exact (MStepKind.rFail (by omega) hrq hi (hin.resolve_left (· hi))).isSome hx
    | cons c rest => exact (MStepKind.rRecv (by omega) hrq hi (runsLocal rfl).2).isSome hx
  · exact (MStepKind.rPut (by omega) hrq (runsLocal rfl).2).isSome hx
  · cases hs : s.sendQ with
    | nil => exact absurd hs hq
    | cons c rest =>
      cases c with
      | none => exact (MStepKind.wPill (by omega) hws hs).isSome hx
      | some m => exact (MStepKind.wGet (by omega) hws hs).isSome hx
  · exact (MStepKind.wSend (by omega) hws).isSome hx

theorem mstep_writer_live (s : MState) (env : InitEnv) (hx : s.exited = false) (hw : s.wthr = 2)
    (h : s.wsend.isSome = true ∨ s.sendQ ≠ []) : ∃ op, (mstep s env "W" op).isSome = true := by
  obtain ⟨-, -, hget, hsend⟩ := mstep_io_enabled s env hx
  cases hws : s.wsend with
  | some m => exact ⟨_, hsend hw m hws⟩
  | none => exact ⟨_, hget hw hws (h.resolve_left (by simp [hws]))⟩

theorem mstep_reader_live (s : MState) (env : InitEnv) (hx : s.exited = false) (hr : s.rthr = 2) (hh : RqHead s.rq)
    (h : s.rq ≠ [] ∨ s.inbound ≠ []) (hps : ∀ rest, s.rq ≠ .poolShutdown :: rest) :
    ∃ op, (mstep s env "R" op).isSome = true := by
  obtain ⟨hrecv, hput, -⟩ := mstep_io_enabled s env hx
  cases hrq : s.rq with
  | nil => exact ⟨_, hrecv hr hrq (.inl (h.resolve_left (· hrq)))⟩
  | cons a rest =>
    rw [hrq] at hh
    cases a with
    | reply l => exact ⟨_, hput hr l rest hrq⟩
    | quit => exact ⟨_, (MStepKind.rQuit (by omega) hrq).isSome hx⟩
    | poolShutdown => exact absurd hrq (hps rest)
    | _ => exact hh.elim

theorem MStepKind.reader_runs {s s' : MState} {env : InitEnv} {op : MOp} {effs : List MEff}
    (h : MStepKind s env "R" op s' effs) : s.rthr = 1 ∨ s.readerRuns := by
  generalize hR : "R" = tid at h
  cases h with
  | rStart h => exact .inl h
  | rRecv hrw | rFail hrw | rPut hrw | rQuit hrw | rJoin hrw | rPoolWait hrw => exact .inr hrw
  | pool hT => exact absurd hR.symm hT.other.ne_R
  | _ => simp at hR

theorem MStepKind.writer_runs {s s' : MState} {env : InitEnv} {op : MOp} {effs : List MEff}
    (h : MStepKind s env "W" op s' effs) : s.wthr = 1 ∨ s.writerRuns := by
  generalize hW : "W" = tid at h
  cases h with
  | wStart h => exact .inl h
  | wGet hrw | wPill hrw | wSend hrw | wFail hrw => exact .inr hrw
  | pool hT => exact absurd hW.symm hT.other.ne_W
  | _ => simp at hW

/-- **what the kind of a step depends on**: not on the exit flag (which `mstep` tests first) or the ghost count, not — for
    a thread other than the reader — on the reader's thread state, and not — for a thread other than the writer, the
    reader's `join()` excepted — on the writer's thread state or the message it holds. -/
theorem MStepKind.transfer {s s1 : MState} {env : InitEnv} {tid : String} {op : MOp} {e : List MEff} (r' w' : Nat)
    (ws' : Option String) (n' : Nat) (x' : Bool) (hR : tid = "R" → r' = s.rthr) (hJ : op = .join → w' = s.wthr)
    (hW : tid = "W" → w' = s.wthr ∧ ws' = s.wsend) (h : MStepKind s env tid op s1 e) :
    ∃ s1' e', MStepKind { s with rthr := r', wthr := w', wsend := ws', nio := n', exited := x' } env tid op s1' e' := by
  cases h with
  | deliver c he => exact ⟨_, _, .deliver c he⟩
  | endOfInput => exact ⟨_, _, .endOfInput⟩
  | mStart h => exact ⟨_, _, .mStart h⟩
  | mPut h => exact ⟨_, _, .mPut h⟩
  | rStart h => obtain rfl := hR rfl; exact ⟨_, _, .rStart h⟩
  | rRecv hr hrq hin => obtain rfl := hR rfl; exact ⟨_, _, .rRecv hr hrq hin (runsLocal rfl).2⟩
  | rFail hr hrq hin he => obtain rfl := hR rfl; exact ⟨_, _, .rFail hr hrq hin he⟩
  | rPut hr hrq => obtain rfl := hR rfl; exact ⟨_, _, .rPut hr hrq (runsLocal rfl).2⟩
  | rQuit hr hrq => obtain rfl := hR rfl; exact ⟨_, _, .rQuit hr hrq⟩
  | rJoin hr hrq hc hw => obtain rfl := hR rfl; obtain rfl := hJ rfl; exact ⟨_, _, .rJoin hr hrq hc hw⟩
  | rPoolWait hr hrq hc hrun hq => obtain rfl := hR rfl; exact ⟨_, _, .rPoolWait hr hrq hc hrun hq⟩
  | wStart h => obtain ⟨rfl, -⟩ := hW rfl; exact ⟨_, _, .wStart h⟩
  | wGet hw hws hq => obtain ⟨rfl, rfl⟩ := hW rfl; exact ⟨_, _, .wGet hw hws hq⟩
  | wPill hw hws hq => obtain ⟨rfl, rfl⟩ := hW rfl; exact ⟨_, _, .wPill hw hws hq⟩
  | wSend hw hws => obtain ⟨rfl, rfl⟩ := hW rfl; exact ⟨_, _, .wSend hw hws⟩
  | wFail hw hws => obtain ⟨rfl, rfl⟩ := hW rfl; exact ⟨_, _, .wFail hw hws⟩
  | pool hT ha hp => exact ⟨_, _, .pool hT ha hp⟩

theorem mstep_isSome_congr (s : MState) (r' w' : Nat) (ws' : Option String) (n' : Nat) (x' : Bool) (env : InitEnv)
    (tid : String) (op : MOp) (hx : x' = s.exited) (hR : tid = "R" → r' = s.rthr) (hJ : op = .join → w' = s.wthr)
    (hW : tid = "W" → w' = s.wthr ∧ ws' = s.wsend) :
    (mstep { s with rthr := r', wthr := w', wsend := ws', nio := n', exited := x' } env tid op).isSome =
      (mstep s env tid op).isSome := by
  subst hx
  rw [Bool.eq_iff_iff, mstep_isSome_iff, mstep_isSome_iff]
  refine and_congr_right' ⟨fun ⟨_, _, hk⟩ => ?_, fun ⟨_, _, hk⟩ => hk.transfer r' w' ws' n' s.exited hR hJ hW⟩
  -- the way back: `s` is the other state with its variables put back
  have := hk.transfer s.rthr s.wthr s.wsend s.nio s.exited (fun h => (hR h).symm) (fun h => (hJ h).symm)
    (fun h => (hW h).imp .symm .symm)
  exact this

end Ari.Conc
