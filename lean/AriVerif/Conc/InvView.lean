import AriVerif.Conc.InvStruct
/-
  Conc/InvView.lean — the protocol half of `Inv`.  Its clauses see the instances only through the looping
  instance of the registered generation, so they are stated (`Sem`) over a flat record `View` without
  `insts` / `mgrs`; `Inv s ↔ Struct (core s) ∧ Sem (view s)` (`Inv.struct`, `Inv.sem`, `Inv.of_parts`).  A step
  is then a frame lemma on `Core` (Conc/InvStruct.lean), an equation for `view` (below) and a transition of
  the view that preserves `Sem` (Conc/InvSem.lean).  `core` and `view` ignore `log`, `out`, `ext`.
-/
namespace Ari.Conc

structure View where
  act : Bool
  pc : Option Pc
  /-- `effOk`; while a task is held it is the outcome variable of the looping instance (`Struct.ok_cur`) -/
  ok : Bool
  code : Option String
  q : List Task
  rh : List Task
  arr : List Task
  fin : List Task
  late : List Task
  lost : List Task
  repl : List String
  execd : List String
  lastInv : Option (AMethod × String × Bool)
  fwd : Option String
  cleared : Bool

def view (s : IState) : View where
  act := s.active.isSome
  pc := (cur s).map fun k => (s.insts k).pc
  ok := effOk s
  code := readCode s
  q := qL s
  rh := rheldL s
  arr := s.arr
  fin := s.fin
  late := s.late
  lost := s.lost
  repl := s.repl
  execd := s.execd
  lastInv := s.lastInv
  fwd := s.fwd
  cleared := s.cleared

def View.held (v : View) : List Task :=
  match v.pc with
  | some p => p.held.toList
  | none => []

def View.between (v : View) : Bool :=
  match v.pc with
  | some p => p.between
  | none => true

structure Sem (v : View) : Prop where
  seq : v.arr = v.fin ++ v.held ++ v.q ++ v.rh
  lateSucc : ∀ p, p ∈ v.late → v.arr.getLast? ≠ some p
  lateFin : ∀ p, p ∈ v.late → p ∈ v.fin ∨ ∃ l, v.pc = some (.put p l .atLoop)
  noneLastUsb : v.act = false → ∀ p, v.fin.getLast? = some p → p.isSub = false
  outBetween : v.between = true → ∀ t, v.fin.getLast? = some t → t.isSub = true →
      (v.ok = true ↔ v.lastInv = some (.sub, t.id, true))
  outReply : ∀ t l, v.pc = some (.put t l .atLoop) → t.isSub = true →
      (v.ok = true ↔ v.lastInv = some (.sub, t.id, true))
  lastInvId : ∀ m r b, v.lastInv = some (m, r, b) → hasId v.fin r ∨
      ∃ p, v.pc = some p ∧ p.afterCall = true ∧ ∃ t, p.held = some t ∧ t.id = r
  usbPaired : ∀ t, v.pc = some (.callBegin .usb t) →
      ∃ p, v.fin.getLast? = some p ∧ p.isSub = true ∧ v.lastInv = some (.sub, p.id, true)
  codeLast : ∀ r, v.code = some r → v.execd.getLast? = some r
  execdArr : ∀ r, r ∈ v.execd → ∃ t, t ∈ v.arr ∧ t.id = r ∧ t.isSub = true ∧ t ∉ v.late
  codeAfterUsb : v.between = true → ∀ t, v.fin.getLast? = some t → t.isSub = false → v.code = none
  codeNever : v.execd = [] → v.code = none
  codeExec : v.between = true → ∀ t, v.fin.getLast? = some t → t.isSub = true → t ∉ v.late →
      v.code = some t.id
  codePublished : ∀ p, v.pc = some p → ∀ t, p.published t = true → v.code = some t.id
  codeReply : ∀ t l, v.pc = some (.put t l .atLoop) → t.isSub = true → t ∉ v.late → v.code = some t.id
  codeUsb : ∀ t, v.pc = some (.callBegin .usb t) → ∀ p, v.fin.getLast? = some p → v.code = some p.id
  clearedNone : v.cleared = true → v.code = none
  fwdShape : ∀ r, v.fwd = some r →
      (∃ t, v.pc = some (.inCall .sub t) ∧ t.id = r) ∨
      (∃ t l, v.pc = some (.put t l .atLoop) ∧ t.isSub = true ∧ t ∉ v.late ∧ v.ok = true ∧ t.id = r) ∨
      (v.between = true ∧ v.ok = true ∧ ∃ t, v.fin.getLast? = some t ∧ t.isSub = true ∧ t ∉ v.late ∧ t.id = r) ∨
      (∃ t', v.pc = some (.callBegin .usb t') ∧ ∃ t, v.fin.getLast? = some t ∧ t.id = r)
  replNodup : v.repl.Nodup
  replFin : ∀ t, t ∈ v.fin → t ∉ v.lost → t.id ∈ v.repl
  replOnly : ∀ r, r ∈ v.repl → hasId v.fin r ∨ ∃ t, v.pc = some (.clearCode t) ∧ t.id = r
  lostNone : v.lost = []
  execdHeld : ∀ r, r ∈ v.execd → hasId v.fin r ∨ hasId v.held r
  lastInvNotLate : ∀ m r b, v.lastInv = some (m, r, b) → ∀ p, p ∈ v.late → p.id ≠ r
  replClear : ∀ t, v.pc = some (.clearCode t) → t.id ∈ v.repl

theorem heldL_view (s : IState) : heldL s = (view s).held := by
  unfold heldL View.held view; cases cur s <;> rfl
theorem between_view (s : IState) : betweenTasks s = (view s).between := by
  unfold betweenTasks View.between view; cases cur s <;> rfl

theorem view_pc {s : IState} {k : Nat} (hc : cur s = some k) : (view s).pc = some (s.insts k).pc := by
  simp only [view, hc, Option.map_some]
theorem view_cur {s : IState} {p : Pc} (hp : (view s).pc = some p) :
    ∃ k, cur s = some k ∧ (s.insts k).pc = p := Option.map_eq_some_iff.mp hp

theorem effOk_cur {s : IState} {k : Nat} (hc : cur s = some k) :
    effOk s = if (s.insts k).deq = 0 then (match s.active with | some g => (s.mgrs g).lastOk | none => false)
      else (s.insts k).ok := by
  obtain ⟨g, ha, hl⟩ := Option.bind_eq_some_iff.mp hc
  simp only [effOk, ha, hl]

theorem Struct.cur_looping {s : IState} (hS : Struct (core s)) {k : Nat} (hc : cur s = some k) :
    k < s.ninst ∧ (s.insts k).pc.looping = true := by
  obtain ⟨g, ha, hl⟩ := Option.bind_eq_some_iff.mp hc
  have := (hS.gen g (hS.activeLt g ha)).loop k hl
  exact ⟨this.1, this.2.2.1⟩

theorem Struct.ok_cur {s : IState} (hS : Struct (core s)) {k : Nat} (hc : cur s = some k)
    (hnb : (s.insts k).pc.between = false) : (view s).ok = (s.insts k).ok := by
  obtain ⟨hk, hl⟩ := hS.cur_looping hc
  have : 1 ≤ (s.insts k).deq := (hS.inst k hk).heldDeq hl hnb
  show effOk s = _
  rw [effOk_cur hc, if_neg (by omega)]

theorem Inv.sem {s : IState} (h : Inv s) : Sem (view s) :=
  { h with
    seq := heldL_view s ▸ h.seq
    lateFin := fun p hp => (h.lateFin p hp).imp id fun ⟨_, l, hk, hpc⟩ => ⟨l, hpc ▸ view_pc hk⟩
    noneLastUsb := fun ha => h.noneLastUsb (Option.isNone_iff_eq_none.mp (Option.isSome_eq_false_iff.mp ha))
    outBetween := between_view s ▸ h.outBetween
    outReply := fun t l hp => by
      obtain ⟨k, hk, hpk⟩ := view_cur hp
      rw [h.struct.ok_cur hk (by rw [hpk]; rfl)]
      exact h.outReply k hk t l hpk
    lastInvId := fun m r b hl => (h.lastInvId m r b hl).imp id fun ⟨_, hk, ha, t⟩ => ⟨_, view_pc hk, ha, t⟩
    usbPaired := fun t hp => by
      obtain ⟨k, hk, hpk⟩ := view_cur hp
      exact h.usbPaired k hk t hpk
    codeLast := fun r hr => by
      obtain ⟨g, ha, hc⟩ : ∃ g, s.active = some g ∧ (s.mgrs g).code = some r := by
        have : readCode s = some r := hr
        unfold readCode at this; split at this
        · exact ⟨_, ‹_›, this⟩
        · cases this
      exact h.codeLast g (h.activeLt g ha) r hc
    codeAfterUsb := between_view s ▸ h.codeAfterUsb
    codeExec := between_view s ▸ h.codeExec
    codePublished := fun p hp => by
      obtain ⟨k, hk, rfl⟩ := view_cur hp
      exact h.codePublished k hk
    codeReply := fun t l hp => by
      obtain ⟨k, hk, hpk⟩ := view_cur hp
      exact h.codeReply k hk t l hpk
    codeUsb := fun t hp => by
      obtain ⟨k, hk, hpk⟩ := view_cur hp
      exact h.codeUsb k hk t hpk
    fwdShape := fun r hr => by
      rcases h.fwdShape r hr with ⟨k, t, hk, hp, e⟩ | ⟨k, t, l, hk, hp, a, b, c, e⟩ | ⟨hb, x⟩ | ⟨k, t', hk, hp, x⟩
      · exact .inl ⟨t, hp ▸ view_pc hk, e⟩
      · exact .inr (.inl ⟨t, l, hp ▸ view_pc hk, a, b, (h.struct.ok_cur hk (by rw [hp]; rfl)).trans c, e⟩)
      · exact .inr (.inr (.inl ⟨between_view s ▸ hb, x⟩))
      · exact .inr (.inr (.inr ⟨t', hp ▸ view_pc hk, x⟩))
    replOnly := fun r hr => (h.replOnly r hr).imp id fun ⟨_, t, hk, hp, e⟩ => ⟨t, hp ▸ view_pc hk, e⟩
    execdHeld := heldL_view s ▸ h.execdHeld
    replClear := fun t hp => by
      obtain ⟨k, hk, hpk⟩ := view_cur hp
      exact h.replClear k hk t hpk }

theorem Inv.of_parts {s : IState} (hS : Struct (core s)) (hV : Sem (view s)) : Inv s :=
  { hV with
    genLt := fun j hj => (hS.inst j hj).genLt
    loopOf := fun j hj => (hS.inst j hj).loopOf
    loopInst := fun g hg k hk => let ⟨a, b, c, _⟩ := (hS.gen g hg).loop k hk; ⟨a, b, c⟩
    running := fun g hg => (hS.gen g hg).running
    firstPop := fun g hg k hk => ((hS.gen g hg).loop k hk).2.2.2
    heldDeq := fun j hj => (hS.inst j hj).heldDeq
    noLostWake := fun g hg => (hS.gen g hg).noLostWake
    activeLt := hS.activeLt
    rheldActive := hS.rheldActive
    lsnInCall := fun j hj => (hS.inst j hj).lsnInCall
    counter := fun g hg => (hS.gen g hg).counter.trans (counter_eq s g).symm
    dead := fun g hg => (hS.gen g hg).dead
    registered := fun g ha => (hS.gen g (hS.activeLt g ha)).registered ha
    pcWf := fun j hj => (hS.inst j hj).pcWf
    seq := heldL_view s ▸ hV.seq
    lateFin := fun p hp => (hV.lateFin p hp).imp id fun ⟨l, hpc⟩ => let ⟨k, hk, hpk⟩ := view_cur hpc; ⟨k, l, hk, hpk⟩
    noneLastUsb := fun ha => hV.noneLastUsb (by simp [view, ha])
    outBetween := between_view s ▸ hV.outBetween
    outReply := fun k hk t l hp => hS.ok_cur hk (by rw [hp]; rfl) ▸ hV.outReply t l (hp ▸ view_pc hk)
    lastInvId := fun m r b hl => (hV.lastInvId m r b hl).imp id fun ⟨_, hp, x⟩ =>
      let ⟨k, hk, hpk⟩ := view_cur hp; ⟨k, hk, hpk ▸ x⟩
    usbPaired := fun k hk t hp => hV.usbPaired t (hp ▸ view_pc hk)
    codeLast := fun g hg r hr => by
      by_cases ha : s.active = some g
      · exact hV.codeLast r (by simp [view, readCode, ha, hr])
      · have : (s.mgrs g).code = none := ((hS.gen g hg).dead ha).2.2.1
        rw [this] at hr; cases hr
    codeAfterUsb := between_view s ▸ hV.codeAfterUsb
    codeExec := between_view s ▸ hV.codeExec
    codePublished := fun k hk => hV.codePublished _ (view_pc hk)
    codeReply := fun k hk t l hp => hV.codeReply t l (hp ▸ view_pc hk)
    codeUsb := fun k hk t hp => hV.codeUsb t (hp ▸ view_pc hk)
    fwdShape := fun r hr => by
      rcases hV.fwdShape r hr with ⟨t, hp, e⟩ | ⟨t, l, hp, a, b, c, e⟩ | ⟨hb, x⟩ | ⟨t', hp, x⟩
      · obtain ⟨k, hk, hpk⟩ := view_cur hp
        exact .inl ⟨k, t, hk, hpk, e⟩
      · obtain ⟨k, hk, hpk⟩ := view_cur hp
        exact .inr (.inl ⟨k, t, l, hk, hpk, a, b, (hS.ok_cur hk (by rw [hpk]; rfl)).symm.trans c, e⟩)
      · exact .inr (.inr (.inl ⟨between_view s ▸ hb, x⟩))
      · obtain ⟨k, hk, hpk⟩ := view_cur hp
        exact .inr (.inr (.inr ⟨k, t', hk, hpk, x⟩))
    replOnly := fun r hr => (hV.replOnly r hr).imp id fun ⟨t, hp, e⟩ => let ⟨k, hk, hpk⟩ := view_cur hp; ⟨k, t, hk, hpk, e⟩
    execdHeld := heldL_view s ▸ hV.execdHeld
    replClear := fun k hk t hp => hV.replClear t (hp ▸ view_pc hk) }

/-- `log`, `out` and `ext` are in no clause. -/
theorem inv_addOut {s : IState} (l : String) (h : Inv s) : Inv (addOut s l) := .of_parts h.struct h.sem

theorem Inv.lsn_none {s : IState} (h : Inv s) {k : Nat} (hk : k < s.ninst)
    (hpc : ∀ m t, (s.insts k).pc ≠ .inCall m t) : (s.insts k).lsn = none :=
  Classical.byContradiction fun hn => let ⟨m, t, e⟩ := h.lsnInCall k hk hn; hpc m t e

theorem view_setInst {s : IState} {k : Nat} (i : Inst) (hc : cur s = some k) :
    view (setInst s k i) = { view s with pc := some i.pc, ok := effOk (setInst s k i) } := by
  have hc' : cur (setInst s k i) = some k := hc
  simp only [view, hc', Option.map_some]
  simp only [setInst, upd_same]
  rfl

theorem effOk_setInst_pos {s : IState} {k : Nat} {i : Inst} (hc : cur s = some k) (hd : 1 ≤ i.deq) :
    effOk (setInst s k i) = i.ok := by
  rw [effOk_cur (s := setInst s k i) hc]
  simp only [setInst, upd_same, if_neg (Nat.ne_of_gt hd)]

theorem effOk_setInst_same {s : IState} {k : Nat} {i : Inst} (hc : cur s = some k)
    (hd : i.deq = (s.insts k).deq) (ho : i.ok = (s.insts k).ok) : effOk (setInst s k i) = effOk s := by
  rw [effOk_cur (s := setInst s k i) hc, effOk_cur hc]
  simp only [setInst, upd_same, hd, ho]

theorem cur_setMgr {s : IState} {g : Nat} (m' : Mgr) (hl : m'.loop = (s.mgrs g).loop) :
    cur (setMgr s g m') = cur s := by
  simp only [cur, setMgr, upd_proj Mgr.loop hl]

theorem view_setQ {s : IState} {g : Nat} (ha : s.active = some g) (r : List Task) :
    view (setMgr s g { s.mgrs g with q := r }) = { view s with q := r } := by
  simp only [view, cur, effOk, readCode, qL, rheldL, setMgr, ha, Option.bind_some, upd_same]

/-- `_dec_queued` by an instance that has left the loop is invisible: the view reads the managers through `loop`,
    `lastOk`, `q`, `code` and the instances at the looping instance of the registered generation. -/
theorem view_dec {s : IState} {k : Nat} (hnc : cur s ≠ some k) (g : Nat) (n : Int) (i : Inst) :
    view (setInst (setMgr s g { s.mgrs g with queued := n }) k i) = view s := by
  simp only [view, cur, effOk, readCode, qL, rheldL, setMgr, setInst, upd_proj Mgr.loop, upd_proj Mgr.lastOk,
    upd_proj Mgr.q, upd_proj Mgr.code] at hnc ⊢
  generalize s.active = a at hnc ⊢
  cases a with
  | none => rfl
  | some g' =>
    simp only [Option.bind_some] at hnc ⊢
    generalize (s.mgrs g').loop = l at hnc ⊢
    cases l with
    | none => rfl
    | some k' => simp only [Option.map_some, upd_other _ _ _ _ fun e => hnc (congrArg some e)]

theorem view_unregister {s : IState} {g k : Nat} (ha : s.active = some g) (hl : (s.mgrs g).loop = none)
    (hq : (s.mgrs g).q = []) (hcode : (s.mgrs g).code = none) (n : Int) (i : Inst) :
    view { setInst (setMgr s g { s.mgrs g with queued := n }) k i with active := none }
      = { view s with act := false, ok := false } := by
  simp [view, cur, effOk, readCode, qL, rheldL, setMgr, setInst, ha, hl, hq, hcode]

theorem view_setCode {s : IState} {g : Nat} (ha : s.active = some g) (x : Option String) :
    view (setMgr s g { s.mgrs g with code := x }) = { view s with code := x } := by
  simp only [view, cur, effOk, readCode, qL, rheldL, setMgr, ha, Option.bind_some, upd_same]

/-- the outcome handed over (`lastOk`) is the one the view had, so only `pc` changes. -/
theorem view_exit {s : IState} {g k : Nat} {b : Bool} (ha : s.active = some g) (hok : b = effOk s) (i : Inst) :
    view (setInst (setMgr s g { s.mgrs g with running := false, lastOk := b, loop := none }) k i)
      = { view s with pc := none } := by
  subst hok
  simp only [view, cur, effOk, readCode, qL, rheldL, setMgr, setInst, ha, Option.bind_some, upd_same,
    Option.map_none]

theorem view_addTask {s : IState} {g : Nat} {t : Task} (ha : s.active = some g) :
    view { setMgr s g { s.mgrs g with q := (s.mgrs g).q ++ [t] } with rheld := none }
      = { view s with q := (view s).q ++ [t], rh := [] } := by
  simp only [view, cur, effOk, readCode, qL, rheldL, setMgr, ha, Option.bind_some, upd_same]

theorem view_arrive {s : IState} {g : Nat} {t : Task} (n : Int) (ha : s.active = some g) :
    view { setMgr s g { s.mgrs g with queued := n } with rheld := some (t, g), arr := s.arr ++ [t] }
      = { view s with rh := [t], arr := s.arr ++ [t] } := by
  simp only [view, cur, effOk, readCode, qL, rheldL, setMgr, ha, Option.bind_some, upd_same]

theorem view_submit {s : IState} {g : Nat} {t : Task} (ha : s.active = some g) (hl : (s.mgrs g).loop = none) :
    view { setMgr s g { s.mgrs g with q := (s.mgrs g).q ++ [t], running := true, loop := some s.ninst } with
          rheld := none, insts := upd s.insts s.ninst { gen := g }, ninst := s.ninst + 1 }
      = { view s with pc := some .inPool, q := (view s).q ++ [t], rh := [] } := by
  simp only [view, cur, effOk, readCode, qL, rheldL, setMgr, ha, Option.bind_some, upd_same, hl, Option.map_some,
    if_true]

theorem view_arriveFresh {s : IState} {t : Task} (ha : s.active = none) :
    view { s with mgrs := upd s.mgrs s.nmgr { queued := 1 }, nmgr := s.nmgr + 1, active := some s.nmgr,
                  rheld := some (t, s.nmgr), arr := s.arr ++ [t] }
      = { view s with act := true, rh := [t], arr := s.arr ++ [t] } := by
  simp only [view, cur, effOk, readCode, qL, rheldL, ha, Option.bind_some, Option.bind_none, upd_same, Option.isSome_some]

end Ari.Conc
