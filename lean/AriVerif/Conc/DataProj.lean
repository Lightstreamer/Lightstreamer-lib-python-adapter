import AriVerif.Conc.DataStep
import AriVerif.Conc.ItemStep
/-
  Conc/DataProj.lean — the whole-server model used in the co-simulation (`Conc/Data.lean`) is the
  item-indexed product of `Conc.Item` machines: every step of the global model changes at most one item's
  state, and changes it by one step of that item's machine.  Hence every item state of every globally
  reachable state is `Reach`able in the item machine, and the per-item theorems (Props/C01, C02, C03, C17,
  C19) apply to the model the real server is compared with chunk by chunk.
-/
namespace Ari.Conc

def ItemsNamed (s : DState) : Prop := ∀ x i, (x, i) ∈ s.items → i.item = x

theorem lk_nil (x : String) : lk [] x = IState.init x := rfl

theorem gioReport_items (s : DState) : (gioReport s).items = s.items := rfl

theorem gstep_projects {s s' : DState} {tid : String} {op : OpClass} {lsnItem : String} {effs : List GEff}
    (h : gstep s tid op lsnItem = some (s', effs)) (x : String) :
    getItem s' x = getItem s x ∨
      ∃ a e', istep (getItem s x) a = some (getItem s' x, e') ∧ effs = liftEffs x s.tasks.length e' := by
  cases gstep_kind h with
  | rLock _ _ _ hi | rAdd _ _ hi | tStart _ _ _ _ _ hi | tDec _ _ _ hi | task _ _ _ hi | lsnRead _ _ hi | lsnPut _ hi =>
    change lk (setItem _ _ _) x = _ ∨ ∃ a e', _ = some (lk (setItem _ _ _) x, e') ∧ _
    rw [lk_setItem]
    split
    · next hxy => subst hxy; exact .inr ⟨_, _, hi, rfl⟩
    · exact .inl rfl
  | _ => exact .inl rfl

theorem istep_effs (s s' : IState) (a : IAct) (e : List Eff) (h : istep s a = some (s', e)) :
    (∀ k, Eff.submit k ∈ e → a = .addTask) ∧
    (∀ m, Eff.adapterBegin m ∈ e ∨ Eff.adapterEnd m ∈ e → (∃ k, a = .callBegin k) ∨ ∃ k o, a = .callEnd k o) := by
  cases IStep.of_istep h <;> simp

theorem isubs_eq_nil {i i' : IState} {a : IAct} {e : List Eff} (h : istep i a = some (i', e)) (ha : a ≠ .addTask) :
    isubs e = [] := by
  refine List.filterMap_eq_nil_iff.2 fun x hx => ?_
  cases x with
  | submit k => exact absurd ((istep_effs _ _ _ _ h).1 k hx) ha
  | _ => rfl

/-- the states the server model reaches by some run from its initial state with `n` pool workers (no ghost log, no
    hypothesis on the environment: compare `GReachL`, Conc/DataFifo.lean). -/
def GReach (n : Nat) (s : DState) : Prop :=
  ∃ steps : List (String × OpClass × String), ∃ s0 : DState, s0 = { poolN := n } ∧
    (steps.foldlM (fun (st : DState) (x : String × OpClass × String) => (gstep st x.1 x.2.1 x.2.2).map (·.1)) s0) = some s

theorem irun_append (s0 : IState) (acts : List IAct) (a : IAct) (i i' : IState) (e : List Eff)
    (h : irun s0 acts = some i) (ha : istep i a = some (i', e)) : irun s0 (acts ++ [a]) = some i' := by
  induction acts generalizing s0 with
  | nil =>
    simp only [irun, Option.some.injEq] at h
    subst h
    simp [irun, ha]
  | cons b acts ih =>
    simp only [List.cons_append, irun] at h ⊢
    split at h
    · rename_i s1 e1 hb
      exact ih s1 h
    · exact absurd h (by simp)

theorem reach_step (x : String) (i i' : IState) (a : IAct) (e : List Eff)
    (h : Reach x i) (ha : istep i a = some (i', e)) : Reach x i' := by
  obtain ⟨acts, hacts⟩ := h
  exact ⟨acts ++ [a], irun_append _ _ _ _ _ _ hacts ha⟩

theorem gstep_item_inv {P : String → IState → Prop}
    (hP : ∀ y i a i' e, P y i → istep i a = some (i', e) → P y i')
    {s s' : DState} {tid : String} {op : OpClass} {x : String} {effs : List GEff}
    (h : gstep s tid op x = some (s', effs)) (hs : ∀ y, P y (getItem s y)) (y : String) : P y (getItem s' y) := by
  rcases gstep_projects h y with heq | ⟨a, e', ha, -⟩
  · rw [heq]; exact hs y
  · exact hP y _ a _ e' (hs y) ha

theorem gstep_reach {s s' : DState} {tid : String} {op : OpClass} {x : String} {e : List GEff}
    (h : gstep s tid op x = some (s', e)) (hs : ∀ y, Reach y (getItem s y)) (y : String) : Reach y (getItem s' y) :=
  gstep_item_inv (fun y i a i' e => reach_step y i i' a e) h hs y

theorem greach_items_reach (n : Nat) (s : DState) (h : GReach n s) (x : String) : Reach x (getItem s x) := by
  obtain ⟨steps, s0, rfl, hrun⟩ := h
  refine foldlM_option_inv (P := fun st => ∀ y, Reach y (getItem st y)) steps (fun p _ st st' hst hf => ?_)
    (fun y => ⟨[], rfl⟩) hrun x
  obtain ⟨r, hg, rfl⟩ := Option.map_eq_some_iff.1 hf
  exact gstep_reach hg hst

end Ari.Conc
