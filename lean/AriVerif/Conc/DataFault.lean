import AriVerif.Conc.DataClose
/-
  Conc/DataFault.lean — I/O failures on the whole-Data-server model: the peer closes or resets the connection at any point of
  the inbound stream (`recv` fails once the delivered bytes are consumed), or any write of the writer thread fails.  C20's
  failure clauses at thread level for the Data server, for every schedule, pool size, adapter outcome and I/O-handler
  configuration (`GReachH`, Conc/DataFifo.lean).
-/
namespace Ari.Conc

/-- the report is exactly `on_ioexception`'s: the handler, if installed, is told once; the process exits iff no handler is
    installed or it returns a true value. -/
theorem gioEffects_spec (s : DState) :
    gioEffects s = (match s.ioHandler with
      | none => [GEff.exit]
      | some r => GEff.ioHandler :: (if r then [GEff.exit] else [])) := rfl

theorem not_mem_liftEffs_io (y : String) (n : Nat) (e : List Eff) :
    GEff.ioHandler ∉ liftEffs y n e ∧ GEff.exit ∉ liftEffs y n e := by
  induction e generalizing n with
  | nil => simp [liftEffs]
  | cons x e ih => cases x <;> simp [liftEffs, ih]

theorem gstep_fault_cases {s s' : DState} {tid : String} {op : OpClass} {x : String} {effs : List GEff}
    (h : gstep s tid op x = some (s', effs)) :
    (GEff.ioHandler ∉ effs ∧ GEff.exit ∉ effs) ∨
    (tid = "R" ∧ op = .recv ∧ s.rst ≠ 4 ∧ s.rmid = none ∧ s.rq = [] ∧ s.inbound = [] ∧ s.inEnd = true ∧
      s' = gioReport { s with rst := 4 } ∧ effs = gioEffects s) ∨
    (tid = "W" ∧ op = .sendFail ∧ (∃ m, s.wpc = .send m) ∧ s' = gioReport { s with wpc := .failed } ∧
      effs = gioEffects s) := by
  cases gstep_kind h with
  | rFail hr hmid hrq hin he => exact .inr (.inl ⟨rfl, rfl, hr.2.2.2, hmid, hrq, hin, he, rfl, rfl⟩)
  | wFail _ hpc => exact .inr (.inr ⟨rfl, rfl, ⟨_, hpc⟩, rfl, rfl⟩)
  | rLock | rAdd | tStart | tDec | task | lsnRead | lsnPut => exact .inl (not_mem_liftEffs_io ..)
  | _ => exact .inl ⟨by simp, by simp⟩

/-- **only a failing read or a failing write is reported.** -/
theorem gstep_io_only_on_fault {s s' : DState} {tid : String} {op : OpClass} {x : String} {effs : List GEff}
    (h : gstep s tid op x = some (s', effs)) (hio : GEff.ioHandler ∈ effs ∨ GEff.exit ∈ effs) :
    (tid = "R" ∧ op = .recv ∧ s.rmid = none ∧ s.rq = [] ∧ s.inbound = [] ∧ s.inEnd = true) ∨
    (tid = "W" ∧ op = .sendFail) := by
  rcases gstep_fault_cases h with ⟨h1, h2⟩ | ⟨h1, h2, -, h3, h4, h5, h6, -⟩ | ⟨h1, h2, -⟩
  · exact (hio.elim h1 h2).elim
  · exact .inl ⟨h1, h2, h3, h4, h5, h6⟩
  · exact .inr ⟨h1, h2⟩

/-- **a failing read**: reported exactly as `on_ioexception` prescribes, the reader ends, nothing else is touched. -/
theorem gstep_read_fault (s : DState) (x : String) (hr : s.rst = 2) (hm : s.rmid = none) (hq : s.rq = [])
    (hi : s.inbound = []) (he : s.inEnd = true) (hx : s.exited = false) :
    ∃ s', gstep s "R" .recv x = some (s', gioEffects s) ∧ s'.rst = 4 ∧
      s'.nio = s.nio + (if s.ioHandler.isSome then 1 else 0) ∧
      s'.exited = (match s.ioHandler with | none => true | some r => r) ∧
      s'.items = s.items ∧ s'.tasks = s.tasks ∧ s'.workQ = s.workQ ∧ s'.running = s.running ∧
      s'.sendQ = s.sendQ ∧ s'.wst = s.wst ∧ s'.wpc = s.wpc ∧ s'.written = s.written ∧ s'.cpc = s.cpc :=
  ⟨_, (GStepKind.rFail (by omega) hm hq hi he).sound hx, rfl, rfl, rfl, rfl, rfl, rfl, rfl, rfl, rfl, rfl, rfl, rfl⟩

/-- **a failing write**: reported the same way, the message in hand is lost, the writer ends, nothing else is touched. -/
theorem gstep_write_fault (s : DState) (x : String) (m : String) (hw : s.wst = 2) (hm : s.wpc = .send m)
    (hx : s.exited = false) :
    ∃ s', gstep s "W" .sendFail x = some (s', gioEffects s) ∧ s'.wpc = .failed ∧ gholding s' = [] ∧
      s'.nio = s.nio + (if s.ioHandler.isSome then 1 else 0) ∧
      s'.exited = (match s.ioHandler with | none => true | some r => r) ∧
      s'.items = s.items ∧ s'.tasks = s.tasks ∧ s'.workQ = s.workQ ∧ s'.running = s.running ∧
      s'.sendQ = s.sendQ ∧ s'.rst = s.rst ∧ s'.written = s.written ∧ s'.cpc = s.cpc :=
  ⟨_, (GStepKind.wFail (by omega) hm).sound hx, rfl, rfl, rfl, rfl, rfl, rfl, rfl, rfl, rfl, rfl, rfl, rfl⟩

/-- after the default reaction (process exit) nothing runs any more. -/
theorem gstep_exited (s : DState) (tid : String) (op : OpClass) (x : String) (h : s.exited = true) :
    gstep s tid op x = none := by
  cases hg : gstep s tid op x with
  | none => rfl
  | some p => rw [gstep_not_exited hg] at h; cases h

/-- a thread that died on a failure takes no further step — hence reports at most once. -/
theorem gstep_dead_reader (s : DState) (op : OpClass) (x : String) (h : s.rst = 4) : gstep s "R" op x = none := by
  cases hg : gstep s "R" op x with
  | none => rfl
  | some p => have := (gstep_kind hg).reader_runs; omega

/-- (the writer's thread state `wst` and its loop state `wpc` are separate variables in the Data model: at step level the
    hypothesis that the thread runs is needed — a writer *created but not yet running* with `wpc = .failed`, which no
    reachable state has, could still take its `threadStart` step; see `greach_dead_writer`.) -/
theorem gstep_dead_writer (s : DState) (op : OpClass) (x : String) (h : s.wpc = .failed) (hw : s.wst ≠ 1) :
    gstep s "W" op x = none := by
  cases hg : gstep s "W" op x with
  | none => rfl
  | some p =>
    rcases (gstep_kind hg).writer_runs with h1 | ⟨-, h1 | ⟨m, h1⟩⟩
    · exact absurd h1 hw
    · rw [h] at h1; cases h1
    · rw [h] at h1; cases h1

/-- in every reachable state a writer dead on a failed write takes no further step. -/
theorem greach_dead_writer {n : Nat} {u p : Option String} {ioh : Option Bool} {s : DState} {log : List String}
    (h : GReachH n u p ioh s log) (op : OpClass) (x : String) (hw : s.wpc = .failed) : gstep s "W" op x = none := by
  have := (greach_dcloseInv h).wRunning (by rw [hw]; simp)
  exact gstep_dead_writer s op x hw (by omega)

/-- **exactly one notification per failing thread, none without a failure** (ghost count), in every reachable state; the
    handler configuration never changes. -/
theorem greach_nio {n : Nat} {u p : Option String} {ioh : Option Bool} {s : DState} {log : List String}
    (h : GReachH n u p ioh s log) :
    s.ioHandler = ioh ∧
    s.nio = (if ioh.isSome then (if s.rst = 4 then 1 else 0) + (if s.wpc = .failed then 1 else 0) else 0) := by
  induction h with
  | init => exact ⟨rfl, by simp⟩
  | @step s s' log tid op x effs hr hs _ ih =>
    obtain ⟨hcfg, hnio⟩ := ih
    -- `mPut` sets `rst := 1`: the count stays right because the reader had not died before it was created
    have hR := (greach_dcloseInv hr).rStarted
    cases gstep_kind hs with
    | mPut | rStart | rPoolWait | wGet | wPill | wSend => exact ⟨hcfg, by dsimp only; grind⟩
    | rFail | wFail => exact ⟨hcfg, by dsimp only [gioReport]; rw [hcfg]; grind⟩
    | _ => exact ⟨hcfg, hnio⟩

/-- **the process exits only as the default reaction to a reported failure.** -/
theorem greach_exited {n : Nat} {u p : Option String} {ioh : Option Bool} {s : DState} {log : List String}
    (h : GReachH n u p ioh s log) (hx : s.exited = true) :
    (s.rst = 4 ∨ s.wpc = .failed) ∧ (ioh = none ∨ ioh = some true) := by
  cases h with
  | init => simp at hx
  | @step s _ log tid op x effs hr hs =>
    have hx0 := gstep_not_exited hs
    have hcfg := (greach_nio hr).1
    cases gstep_kind hs with
    | rFail => exact ⟨.inl rfl, hcfg ▸ default_of_exits hx⟩
    | wFail => exact ⟨.inr rfl, hcfg ▸ default_of_exits hx⟩
    | _ => exact absurd (hx0.symm.trans hx) (by simp)

theorem gstep_join_writer_ended {s : DState} {tid x : String} (h : (gstep s tid .join x).isSome = true) :
    tid = "R" ∧ (s.wpc = .stopped ∨ s.wpc = .failed) := by
  obtain ⟨-, _, _, hk⟩ := gstep_isSome_iff.1 h
  cases hk with
  | rJoin _ _ _ _ hw => exact ⟨rfl, hw⟩
  | task _ _ ha => cases ha

/-- a failure handled by the application (handler returns a false value) leaves the rest of the server running: the pool
    threads', the application threads', the starting thread's, the environment's and the other I/O thread's steps are exactly
    as enabled as before — except the reader's `join()` of the writer, which a writer dead on a failed write lets through (see
    `gstep_fault_isolated_mono`: no step is ever disabled). -/
theorem gstep_fault_isolated {s s' : DState} {tid : String} {op : OpClass} {x : String} {effs : List GEff}
    (h : gstep s tid op x = some (s', effs)) (hio : GEff.ioHandler ∈ effs) (hx : s'.exited = false)
    (tid' : String) (op' : OpClass) (x' : String) (hne : tid' ≠ tid) (hj : op' ≠ .join) :
    (gstep s' tid' op' x').isSome = (gstep s tid' op' x').isSome := by
  have hx0 := gstep_not_exited h
  rcases gstep_fault_cases h with ⟨h1, -⟩ | ⟨rfl, -, -, -, -, -, -, rfl, -⟩ | ⟨rfl, -, -, rfl, -⟩
  · exact absurd hio h1
  · exact gstep_isSome_congr s 4 s.wpc _ _ tid' op' x' (hx.trans hx0.symm) (fun h => absurd h hne) (fun _ => rfl)
      (fun _ => rfl)
  · exact gstep_isSome_congr s s.rst .failed _ _ tid' op' x' (hx.trans hx0.symm) (fun _ => rfl) (fun h => absurd h hj)
      (fun h => absurd h hne)

/-- … and no step of another thread, `join()` included, is disabled by a handled failure. -/
theorem gstep_fault_isolated_mono {s s' : DState} {tid : String} {op : OpClass} {x : String} {effs : List GEff}
    (h : gstep s tid op x = some (s', effs)) (hio : GEff.ioHandler ∈ effs) (hx : s'.exited = false)
    (tid' : String) (op' : OpClass) (x' : String) (hne : tid' ≠ tid) (hen : (gstep s tid' op' x').isSome = true) :
    (gstep s' tid' op' x').isSome = true := by
  by_cases hj : op' = .join
  · -- `join()`, the reader's, was not enabled: the writer, which has just stepped, had not ended
    subst hj
    obtain ⟨rfl, h1⟩ := gstep_join_writer_ended hen
    rcases gstep_fault_cases h with ⟨h2, -⟩ | ⟨rfl, -⟩ | ⟨-, -, ⟨m, hm⟩, -⟩
    · exact absurd hio h2
    · exact absurd rfl hne
    · rw [hm] at h1
      rcases h1 with h1 | h1 <;> cases h1
  · exact (gstep_fault_isolated h hio hx tid' op' x' hne hj).trans hen

/-- the exception is real: a writer holding a message while the reader is joining it (`close()` under way); before the
    failing write the reader's `join()` is not enabled, after it (handler installed, returns a false value) it is. -/
example :
    let s : DState :=
      { poolN := 1, ioHandler := some false, rst := 2, wst := 2, mpc := 2, wpc := .send "x", cpc := 1,
        rq := [ROp.poolShutdown], sendQ := [none], initExpected := false }
    (gstep s "R" .join "").isSome = false ∧
    ((gstep s "W" .sendFail "").map fun r => (r.1.exited, r.2.length, (gstep r.1 "R" .join "").isSome)) =
      some (false, 1, true) := by
  decide +kernel

/-- non-vacuity: the peer closes the connection of a started Data server whose handler returns a false value: the reader
    reports once and ends, the process goes on. -/
example : ∃ s log, GReachH 1 none none (some false) s log ∧ s.rst = 4 ∧ s.nio = 1 ∧ s.exited = false ∧ s.wst = 2 := by
  let steps : List (String × OpClass × String) :=
    [("M", .threadStart, ""), ("M", .put, ""), ("R", .threadStart, ""), ("W", .threadStart, ""),
     ("P", .endOfInput, ""), ("R", .recv, "")]
  have hrun : ∃ s', (steps.foldlM (fun (st : DState) (x : String × OpClass × String) => (gstep st x.1 x.2.1 x.2.2).map (·.1))
      { poolN := 1, user := none, password := none, ioHandler := some false }) = some s' ∧
      s'.rst = 4 ∧ s'.nio = 1 ∧ s'.exited = false ∧ s'.wst = 2 := by
    decide +kernel
  obtain ⟨s', hs', h1⟩ := hrun
  obtain ⟨log', hr⟩ := greachH_run steps _ _ (GReachH.init (n := 1)) (no_failurePut rfl) s' hs'
  exact ⟨s', log', hr, h1⟩

end Ari.Conc
