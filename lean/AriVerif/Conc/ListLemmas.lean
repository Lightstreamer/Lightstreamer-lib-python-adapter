/-
  Conc/ListLemmas.lean — facts about lists that the proof modules share and core does not state in this form.
-/
namespace Ari.Conc

theorem set_split {α : Type} {l : List α} {k : Nat} {a : α} (h : l[k]? = some a) :
    ∃ l1 l2, l = l1 ++ a :: l2 ∧ ∀ b, l.set k b = l1 ++ b :: l2 := by
  obtain ⟨hk, rfl⟩ := List.getElem?_eq_some_iff.mp h
  refine ⟨l.take k, l.drop (k+1), ?_, fun b => ?_⟩
  · rw [List.getElem_cons_drop, List.take_append_drop]
  · rw [List.set_eq_take_append_cons_drop, if_pos hk]

theorem filter_length_set {α : Type} (p : α → Bool) (l : List α) (k : Nat) (a b : α) (h : l[k]? = some a) :
    ((l.set k b).filter p).length + (if p a then 1 else 0) = (l.filter p).length + (if p b then 1 else 0) := by
  obtain ⟨l1, l2, rfl, hs⟩ := set_split h
  simp only [hs, ← List.countP_eq_length_filter, List.countP_append, List.countP_cons]
  omega

theorem sum_map_set {α : Type} (f : α → Nat) (l : List α) (k : Nat) (a b : α) (h : l[k]? = some a) :
    ((l.set k b).map f).sum + f a = (l.map f).sum + f b := by
  obtain ⟨l1, l2, rfl, hs⟩ := set_split h
  simp only [hs, List.map_append, List.map_cons, List.sum_append_nat, List.sum_cons]
  omega

theorem map_set_of_eq {α β : Type} {f : α → β} {l : List α} {k : Nat} {a b : α} (h : l[k]? = some a) (hf : f b = f a) :
    (l.set k b).map f = l.map f := by
  obtain ⟨l1, l2, rfl, hs⟩ := set_split h
  rw [hs, List.map_append, List.map_append, List.map_cons, List.map_cons, hf]

theorem head?_drop_range {n m k : Nat} (h : ((List.range n).drop m).head? = some k) : k = m ∧ m < n := by
  rw [List.head?_drop, List.getElem?_eq_some_iff] at h
  obtain ⟨hlt, he⟩ := h
  simp at hlt he
  exact ⟨he.symm, hlt⟩

theorem forall_getElem?_concat {α : Type} {l : List α} {x : α} {P : Nat → α → Prop}
    (hl : ∀ k a, l[k]? = some a → P k a) (hx : P l.length x) : ∀ k a, (l ++ [x])[k]? = some a → P k a := by
  intro k a h
  rcases Nat.lt_or_ge k l.length with hk | hk
  · exact hl k a (by rwa [List.getElem?_append_left hk] at h)
  · rw [List.getElem?_append_right hk, List.getElem?_singleton] at h
    split at h <;> cases h
    exact (by omega : l.length = k) ▸ hx

theorem forall_getElem?_set {α : Type} {l : List α} {k : Nat} {b : α} {P : Nat → α → Prop} (hk : k < l.length)
    (hb : P k b) (hl : ∀ j a, j ≠ k → l[j]? = some a → P j a) : ∀ j a, (l.set k b)[j]? = some a → P j a := by
  intro j a h
  by_cases hjk : j = k
  · rw [hjk, List.getElem?_set_self hk] at h
    cases h; exact hjk ▸ hb
  · rw [List.getElem?_set_ne (Ne.symm hjk)] at h
    exact hl j a hjk h

theorem map_eq_set {α β : Type} {f f' : α → β} {l : List α} {i : Nat} {a : α} (hn : l.Nodup) (h : l[i]? = some a)
    (hc : ∀ b ∈ l, b ≠ a → f' b = f b) : l.map f' = (l.map f).set i (f' a) := by
  have hi := (List.getElem?_eq_some_iff.mp h).1
  apply List.ext_getElem?
  intro j
  rw [List.getElem?_set, List.getElem?_map, List.getElem?_map, List.length_map]
  by_cases hij : i = j
  · rw [if_pos hij, if_pos hi, ← hij, h]; rfl
  · rw [if_neg hij]
    cases hb : l[j]? with
    | none => rfl
    | some b =>
      exact congrArg some (hc b (List.mem_of_getElem? hb) fun e => hij ((List.getElem?_inj hi hn).1 (h.trans (e ▸ hb.symm))))

theorem getLast?_append_ne_nil {α} {l l' : List α} (h : l' ≠ []) : (l ++ l').getLast? = l'.getLast? := by
  rw [List.getLast?_append, List.getLast?_eq_some_getLast h, Option.some_or]

theorem forall_mem_concat {α} {P : α → Prop} {l : List α} {a : α} (hl : ∀ x, x ∈ l → P x) (ha : P a) :
    ∀ x, x ∈ l ++ [a] → P x := fun x hx =>
  (List.mem_append.mp hx).elim (hl x) fun e => List.mem_singleton.mp e ▸ ha

theorem forall_getLast_concat {α} {P : α → Prop} {l : List α} {a : α} (ha : P a) :
    ∀ x, (l ++ [a]).getLast? = some x → P x := fun x e => by
  cases List.getLast?_concat.symm.trans e; exact ha

/-- the step is asked for the actions of the run only, so that a hypothesis on the run (no `failurePut` in
    `greachH_run`) can be used. -/
theorem foldlM_option_inv {σ α : Type} {f : σ → α → Option σ} {P : σ → Prop} :
    ∀ (l : List α) {s s' : σ}, (∀ a ∈ l, ∀ t t', P t → f t a = some t' → P t') → P s → l.foldlM f s = some s' → P s'
  | [], _, _, _, hs, h => by cases h; exact hs
  | a :: l, s, _, hstep, hs, h => by
    rw [List.foldlM_cons] at h
    cases hf : f s a with
    | none => rw [hf] at h; cases h
    | some t =>
      rw [hf] at h
      exact foldlM_option_inv l (fun b hb => hstep b (List.mem_cons_of_mem _ hb))
        (hstep a (List.mem_cons_self ..) s t hs hf) h

end Ari.Conc
