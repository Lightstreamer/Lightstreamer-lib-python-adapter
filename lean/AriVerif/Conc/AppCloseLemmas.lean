import AriVerif.Conc.AppClose
import AriVerif.Conc.ListLemmas
/-!
  Conc/AppCloseLemmas.lean — `step` of `Conc/AppClose.lean` as an inductive relation with one rule per branch, and the
  inductive invariant in three parts, each proved rule by rule: `InvA` (how far `close()` has got; arithmetic on its step
  counter, `AppCtl`), `InvC` (who may report what, and when), `Fifo` (the writer's output against the log of the queue).
-/
namespace Ari.AppClose

def nextPc : List Req → RPc
  | [] => .test
  | rs => .proc rs

theorem afterReq_eq (s : St) (rs : List Req) : afterReq s rs = { s with r := nextPc rs } := by
  cases rs <;> rfl

theorem report_eq (s : St) (who : Who) :
    report s who = { s with ioRep := s.ioRep ++ [⟨who, s.stop, s.sockClosed, s.peerFault⟩],
                            exited := s.exited || s.hnd != .no } := by
  cases h : s.hnd <;> simp [report, h]

theorem recvFail_eq (s : St) : recvFail s =
    { s with r := .done, ioRep := s.ioRep ++ (if s.stop then [] else [⟨.reader, s.stop, s.sockClosed, s.peerFault⟩]),
             exited := s.exited || (!s.stop && s.hnd != .no) } := by
  unfold recvFail
  split <;> simp [report_eq, *]

inductive Step (s : St) : Act → St → Prop
  | stop : s.app < 6 * s.closes → s.app % 6 = 0 → Step s .app { s with stop := true, app := s.app + 1 }
  | pill : s.app < 6 * s.closes → s.app % 6 = 1 → Step s .app { s with q := s.q ++ [.pill], enq := s.enq ++ [.pill], app := s.app + 1 }
  | join : s.app < 6 * s.closes → s.app % 6 = 2 → s.w = .done → Step s .app { s with app := s.app + 1 }
  | shut : s.app < 6 * s.closes → s.app % 6 = 3 → Step s .app { s with poolShut := true, app := s.app + 1 }
  | wait : s.app < 6 * s.closes → s.app % 6 = 4 → s.tasks = 0 → Step s .app { s with app := s.app + 1 }
  | sock : s.app < 6 * s.closes → s.app % 6 = 5 → Step s .app { s with sockClosed := true, app := s.app + 1 }
  | testStop : s.r = .test → s.stop = true → Step s .rd { s with r := .done }
  | testGo : s.r = .test → s.stop = false → Step s .rd { s with r := .recv }
  | recvClosed : s.r = .recv → s.sockClosed = true → Step s .rd (recvFail s)
  | recvEof : s.r = .recv → s.sockClosed = false → s.inbound = [] → s.peerFault = true → Step s .rd (recvFail s)
  | recv c rest : s.r = .recv → s.sockClosed = false → s.inbound = c :: rest →
      Step s .rd { s with inbound := rest, r := nextPc c }
  | procNil : s.r = .proc [] → Step s .rd { s with r := .test }
  | procInit rs : s.r = .proc (.init :: rs) → Step s .rd { put s with r := nextPc rs }
  | procExc rs : s.r = .proc (.task :: rs) → s.poolShut = true → Step s .rd { s with excRep := s.excRep + 1, r := .exc }
  | procTask rs : s.r = .proc (.task :: rs) → s.poolShut = false →
      Step s .rd { s with tasks := s.tasks + 1, acc := s.acc + 1, r := nextPc rs }
  | excRet : s.r = .exc → Step s .rd { s with r := .done }
  | rfal : s.r = .exc → Step s .rfal (put s)
  | getPill rest : s.w = .get → s.q = .pill :: rest → Step s .wr { s with q := rest, w := .done }
  | getLine n rest : s.w = .get → s.q = .line n :: rest → Step s .wr { s with q := rest, w := .send n }
  | sendFail n : s.w = .send n → s.failAt = some (s.nw + 1) →
      Step s .wr { report { s with nw := s.nw + 1 } .writer with w := .done }
  | send n : s.w = .send n → s.failAt ≠ some (s.nw + 1) →
      Step s .wr { s with nw := s.nw + 1, wrote := s.wrote ++ [n], w := .get }
  | tenq : s.tasks > 0 → Step s .tenq (put s)
  | tfin : s.tasks > 0 → Step s .tfin { s with tasks := s.tasks - 1, fin := s.fin + 1 }

theorem Step.of_appStep {s s' : St} (h : appStep s = some s') : Step s .app s' := by
  unfold appStep at h
  split at h
  case isFalse => cases h
  case isTrue hm =>
    split at h
    case h_1 h0 => cases h; exact .stop hm h0
    case h_2 h1 => cases h; exact .pill hm h1
    case h_3 h2 => split at h <;> cases h; exact .join hm h2 ‹_›
    case h_4 h3 => cases h; exact .shut hm h3
    case h_5 h4 => split at h <;> cases h; exact .wait hm h4 ‹_›
    case h_6 => cases h; exact .sock hm (by grind)

theorem Step.of_rdStep {s s' : St} (h : rdStep s = some s') : Step s .rd s' := by
  unfold rdStep at h
  simp only [afterReq_eq] at h
  split at h
  case h_1 hr =>
    cases h
    split
    · exact .testStop hr ‹_›
    · exact .testGo hr (Bool.eq_false_iff.2 ‹_›)
  case h_2 hr =>
    split at h
    case isTrue hc => cases h; exact .recvClosed hr hc
    case isFalse hc =>
      have hc := Bool.eq_false_iff.2 hc
      split at h
      case h_1 c rest hi => cases h; exact .recv c rest hr hc hi
      case h_2 hi => split at h <;> cases h; exact .recvEof hr hc hi ‹_›
  case h_3 hr => cases h; exact .procNil hr
  case h_4 rs hr => cases h; exact .procInit rs hr
  case h_5 rs hr =>
    split at h <;> cases h
    · exact .procExc rs hr ‹_›
    · exact .procTask rs hr (Bool.eq_false_iff.2 ‹_›)
  case h_6 hr => cases h; exact .excRet hr
  case h_7 => cases h

theorem Step.of_wrStep {s s' : St} (h : wrStep s = some s') : Step s .wr s' := by
  unfold wrStep at h
  split at h
  case h_1 hw =>
    split at h <;> cases h
    · exact .getPill _ hw ‹_›
    · exact .getLine _ _ hw ‹_›
  case h_2 n hw =>
    split at h <;> cases h
    · exact .sendFail n hw ‹_›
    · exact .send n hw ‹_›
  case h_3 => cases h

theorem Step.of_step {s s' : St} {a : Act} (h : step s a = some s') : s.exited = false ∧ Step s a s' := by
  unfold step at h
  split at h
  · cases h
  refine ⟨Bool.eq_false_iff.mpr ‹_›, ?_⟩
  cases a with
  | app => exact .of_appStep h
  | rd => exact .of_rdStep h
  | wr => exact .of_wrStep h
  | rfal => dsimp only at h; split at h <;> cases h; exact .rfal ‹_›
  | tenq => dsimp only at h; split at h <;> cases h; exact .tenq ‹_›
  | tfin => dsimp only at h; split at h <;> cases h; exact .tfin ‹_›

theorem Step.sound {s s' : St} {a : Act} (hx : s.exited = false) (h : Step s a s') : step s a = some s' := by
  cases h <;> simp_all [step, appStep, rdStep, wrStep, afterReq_eq]

theorem app_enabled {s : St} (hm : s.app < 6 * s.closes) (h2 : s.app % 6 = 2 → s.w = .done)
    (h4 : s.app % 6 = 4 → s.tasks = 0) : ∃ s', Step s .app s' := by
  rcases (by omega : s.app % 6 = 0 ∨ s.app % 6 = 1 ∨ s.app % 6 = 2 ∨ s.app % 6 = 3 ∨ s.app % 6 = 4 ∨ s.app % 6 = 5)
    with h | h | h | h | h | h
  · exact ⟨_, .stop hm h⟩
  · exact ⟨_, .pill hm h⟩
  · exact ⟨_, .join hm h (h2 h)⟩
  · exact ⟨_, .shut hm h⟩
  · exact ⟨_, .wait hm h (h4 h)⟩
  · exact ⟨_, .sock hm h⟩

theorem wr_enabled {s : St} (hw : s.w ≠ .done) (hq : s.w = .get → s.q ≠ []) : ∃ s', Step s .wr s' := by
  cases hw' : s.w with
  | done => exact absurd hw' hw
  | send n =>
    by_cases hf : s.failAt = some (s.nw + 1)
    · exact ⟨_, .sendFail n hw' hf⟩
    · exact ⟨_, .send n hw' hf⟩
  | get =>
    match hq' : s.q with
    | [] => exact absurd hq' (hq hw')
    | .pill :: rest => exact ⟨_, .getPill rest hw' hq'⟩
    | .line n :: rest => exact ⟨_, .getLine n rest hw' hq'⟩

structure InvA (s : St) : Prop where
  stop : 1 ≤ s.app → s.stop = true
  wdone : 3 ≤ s.app → s.w = .done
  shut : 4 ≤ s.app → s.poolShut = true
  tasks0 : 5 ≤ s.app → s.tasks = 0
  sock : s.sockClosed = true ↔ 6 ≤ s.app
  acc : s.acc = s.fin + s.tasks
  pill : 2 ≤ s.app → s.w ≠ .done → Msg.pill ∈ s.q

/-- FIFO clause (the statement of `c20a_fifo`). -/
def Fifo (s : St) : Prop :=
  match s.w with
  | .get => s.wrote.map Msg.line ++ s.q = s.enq
  | .send n => s.wrote.map Msg.line ++ Msg.line n :: s.q = s.enq
  | .done => s.wrote.map Msg.line ++ Msg.pill :: s.q = s.enq ∨
      ((∃ n, s.wrote.map Msg.line ++ Msg.line n :: s.q = s.enq) ∧ ∃ rep ∈ s.ioRep, rep.who = .writer)

structure InvC (hnd : Hnd) (failAt : Option Nat) (peerFault : Bool) (s : St) : Prop where
  -- the parameters of the run stay what `init` was given
  cH : s.hnd = hnd
  cF : s.failAt = failAt
  cP : s.peerFault = peerFault
  -- what a report records.  The reader reports only a failure of the peer, met with the stop flag clear and the socket open
  -- (a `recv` that fails because of `close()` finds the stop flag set and is passed over in silence) …
  rrep : ∀ rep ∈ s.ioRep, rep.who = .reader → rep.stop = false ∧ rep.sockClosed = false ∧ rep.peerFault = true
  -- … every record carries the run's `peerFault` …
  prep : ∀ rep ∈ s.ioRep, rep.peerFault = s.peerFault
  -- … and the writer reports only a write that was set to fail, on an open socket (`close()` joins it before closing).
  wrep : ∀ rep ∈ s.ioRep, rep.who = .writer → rep.sockClosed = false ∧ s.failAt ≠ none
  -- a thread reports as its last act, hence at most once
  rcnt0 : s.r ≠ .done → (s.ioRep.filter (fun r => r.who = .reader)).length = 0
  rcnt : (s.ioRep.filter (fun r => r.who = .reader)).length ≤ 1
  wcnt0 : s.w ≠ .done → (s.ioRep.filter (fun r => r.who = .writer)).length = 0
  wcnt : (s.ioRep.filter (fun r => r.who = .writer)).length ≤ 1
  -- `report`: any report ends the process unless a handler is installed and returned False
  exit : s.exited = true ↔ (s.ioRep ≠ [] ∧ s.hnd ≠ .no)
  -- `on_exception` is entered at most once, by a `submit` after `shutdown()`, and the reader ends from there
  exc1 : s.excRep ≤ 1
  exc : 0 < s.excRep → s.poolShut = true ∧ (s.r = .exc ∨ s.r = .done)

structure Inv (hnd : Hnd) (failAt : Option Nat) (peerFault : Bool) (s : St) : Prop where
  a : InvA s
  c : InvC hnd failAt peerFault s
  fifo : Fifo s

section
variable {hnd : Hnd} {failAt : Option Nat} {peerFault : Bool} {s s' : St} {act : Act}

theorem InvC.readerReport (h : InvC hnd failAt peerFault s) (hr : s.r ≠ .done) (hs : s.stop = false)
    (hc : s.sockClosed = false) (hp : s.peerFault = true) :
    InvC hnd failAt peerFault { report s .reader with r := .done } := by
  rw [report_eq]
  exact { h with
    rrep := Conc.forall_mem_concat h.rrep fun _ => ⟨hs, hc, hp⟩
    prep := Conc.forall_mem_concat h.prep rfl
    wrep := Conc.forall_mem_concat h.wrep nofun
    rcnt0 := fun hr' => absurd rfl hr'
    rcnt := by simp [h.rcnt0 hr]
    wcnt0 := by simpa using h.wcnt0
    wcnt := by simpa using h.wcnt
    exit := by have := h.exit; cases hx : s.hnd <;> simp_all
    exc := fun h0 => ⟨(h.exc h0).1, .inr rfl⟩ }

theorem InvC.writerReport (h : InvC hnd failAt peerFault s) (hw : s.w ≠ .done) (hc : s.sockClosed = false)
    (hf : s.failAt ≠ none) : InvC hnd failAt peerFault { report s .writer with w := .done } := by
  rw [report_eq]
  exact { h with
    rrep := Conc.forall_mem_concat h.rrep nofun
    prep := Conc.forall_mem_concat h.prep rfl
    wrep := Conc.forall_mem_concat h.wrep fun _ => ⟨hc, hf⟩
    rcnt0 := by simpa using h.rcnt0
    rcnt := by simpa using h.rcnt
    wcnt0 := fun hw' => absurd rfl hw'
    wcnt := by simp [h.wcnt0 hw]
    exit := by have := h.exit; cases hx : s.hnd <;> simp_all }

theorem InvC.readerEnds (h : InvC hnd failAt peerFault s) : InvC hnd failAt peerFault { s with r := .done } :=
  { h with rcnt0 := fun hr => absurd rfl hr, exc := fun h0 => ⟨(h.exc h0).1, .inr rfl⟩ }

/-- A failing `recv`, which is reported unless the stop flag is set, must then be the peer's doing. -/
theorem InvC.recvFails (h : InvC hnd failAt peerFault s) (hr : s.r ≠ .done)
    (hj : s.stop = false → s.sockClosed = false ∧ s.peerFault = true) : InvC hnd failAt peerFault (recvFail s) := by
  unfold recvFail
  split
  · exact h.readerEnds
  · next hs =>
    have hs := Bool.eq_false_iff.2 hs
    exact h.readerReport hr hs (hj hs).1 (hj hs).2

/-- Rule by rule; `{ h with … }` lists the clauses that mention a field the rule changes. -/
theorem InvC.step (a : InvA s) (h : InvC hnd failAt peerFault s) (st : Step s act s') :
    InvC hnd failAt peerFault s' := by
  -- outside its exception handler the reader has raised no exception yet
  have e0 : s.r ≠ .exc → s.r ≠ .done → ¬ 0 < s.excRep := fun h1 h2 h0 => (h.exc h0).2.elim h1 h2
  cases st with
  | stop | pill | join | wait | sock | tenq | tfin | rfal => exact { h with }
  | shut => exact { h with exc := fun h0 => ⟨rfl, (h.exc h0).2⟩ }
  | getPill _ hw | getLine _ _ hw | send _ hw => exact { h with wcnt0 := fun _ => h.wcnt0 (by simp [hw]) }
  | sendFail n hw hf =>
    -- the writer is still running, so `close()` has not got past its `join`, let alone closed the socket
    have hc : s.sockClosed = false := Bool.eq_false_iff.2 fun hc => by
      have := a.wdone (by have := a.sock.1 hc; omega); simp [hw] at this
    exact InvC.writerReport (s := { s with nw := s.nw + 1 }) { h with } (by simp [hw]) hc (by simp [hf])
  | testStop | excRet => exact h.readerEnds
  | recvEof hr hc _ hp => exact h.recvFails (by simp [hr]) fun _ => ⟨hc, hp⟩
  -- the socket is closed by the last step of `close()`, whose first step set the stop flag
  | recvClosed hr hc =>
    have hs : s.stop = true := a.stop (by have := a.sock.1 hc; omega)
    exact h.recvFails (by simp [hr]) (by simp [hs])
  | procExc _ hr hs =>
    have := e0 (by simp [hr]) (by simp [hr])
    exact { h with rcnt0 := fun _ => h.rcnt0 (by simp [hr]), exc1 := by dsimp only; omega, exc := fun _ => ⟨hs, .inl rfl⟩ }
  | testGo hr | recv _ _ hr | procNil hr | procInit _ hr | procTask _ hr =>
    exact { h with rcnt0 := fun _ => h.rcnt0 (by simp [hr]), exc := fun h0 => absurd h0 (e0 (by simp [hr]) (by simp [hr])) }

/-- The phase clauses of `InvA` over plain values: `a` is `close()`'s step counter, `t` the number of unfinished tasks, the
    propositions are "the stop flag is set", "the writer has ended", "the pool is shut", "the socket is closed", "a stop pill
    is queued".  What a rule does to them is then arithmetic. -/
def AppCtl (a t : Nat) (stop wdone shut sock pill : Prop) : Prop :=
  (1 ≤ a → stop) ∧ (3 ≤ a → wdone) ∧ (4 ≤ a → shut) ∧ (5 ≤ a → t = 0) ∧ (sock ↔ 6 ≤ a) ∧ (2 ≤ a → ¬ wdone → pill)

theorem invA_iff : InvA s ↔
    AppCtl s.app s.tasks (s.stop = true) (s.w = .done) (s.poolShut = true) (s.sockClosed = true) (Msg.pill ∈ s.q) ∧
    s.acc = s.fin + s.tasks :=
  ⟨fun ⟨h1, h2, h3, h4, h5, h6, h7⟩ => ⟨⟨h1, h2, h3, h4, h5, h7⟩, h6⟩,
   fun ⟨⟨h1, h2, h3, h4, h5, h7⟩, h6⟩ => ⟨h1, h2, h3, h4, h5, h6, h7⟩⟩

/-- with the counter and the flags as they are, the clauses survive the writer ending and any change of the queue that keeps
    a queued pill until the writer has ended … -/
theorem AppCtl.mono {a t : Nat} {stop wdone wdone' shut sock pill pill' : Prop} (h : AppCtl a t stop wdone shut sock pill)
    (hw : wdone → wdone') (hp : ¬ wdone' → pill → pill') : AppCtl a t stop wdone' shut sock pill' :=
  have ⟨h1, h2, h3, h4, h5, h6⟩ := h
  ⟨h1, fun h => hw (h2 h), h3, h4, h5, fun h hn => hp hn (h6 h (mt hw hn))⟩

/-- … and tasks finishing or, while the pool is open, being accepted. -/
theorem AppCtl.tasks {a t t' : Nat} {stop wdone shut sock pill : Prop} (h : AppCtl a t stop wdone shut sock pill)
    (ht : shut → t' ≤ t) : AppCtl a t' stop wdone shut sock pill :=
  have ⟨h1, h2, h3, h4, h5, h6⟩ := h
  ⟨h1, h2, h3, fun h => Nat.le_zero.1 (h4 h ▸ ht (h3 (by omega))), h5, h6⟩

theorem InvA.step (h : InvA s) (st : Step s act s') : InvA s' := by
  obtain ⟨hc, hacc⟩ := invA_iff.1 h
  refine invA_iff.2 ?_
  cases st with
  -- `close()`: rule number `k = app % 6` makes true what the clause for `k + 1 ≤ app` asks for
  | stop | pill | join | shut | wait | sock => unfold AppCtl at hc ⊢; dsimp only; grind
  | testStop | testGo | recv | procNil | procExc | excRet => exact ⟨hc, hacc⟩
  | recvClosed | recvEof => rw [recvFail_eq]; exact ⟨hc, hacc⟩
  -- a line is enqueued, behind the pill if there is one
  | procInit | rfal | tenq => exact ⟨hc.mono id fun _ => List.mem_append_left _, hacc⟩
  -- the writer takes the pill and ends, or takes a line and leaves the pill queued
  | getPill => exact ⟨hc.mono (fun _ => rfl) fun hn => absurd rfl hn, hacc⟩
  | getLine _ _ hw hq => exact ⟨hc.mono (by simp [hw]) (by simp [hq]), hacc⟩
  | sendFail => rw [report_eq]; exact ⟨hc.mono (fun _ => rfl) fun hn => absurd rfl hn, hacc⟩
  | send _ hw => exact ⟨hc.mono (by simp [hw]) fun _ => id, hacc⟩
  | procTask _ _ hs => exact ⟨hc.tasks (by simp [hs]), by dsimp only; omega⟩
  | tfin => exact ⟨hc.tasks fun _ => Nat.sub_le .., by dsimp only; omega⟩

theorem Step.wr_frame (st : Step s act s') (ha : act ≠ .wr) :
    s'.w = s.w ∧ s'.wrote = s.wrote ∧ (∃ l, s'.q = s.q ++ l ∧ s'.enq = s.enq ++ l) ∧ ∀ rep ∈ s.ioRep, rep ∈ s'.ioRep := by
  cases st
  case getPill | getLine | sendFail | send => all_goals exact absurd rfl ha
  case pill | procInit | rfal | tenq => all_goals exact ⟨rfl, rfl, ⟨[_], rfl, rfl⟩, fun _ => id⟩
  case recvClosed | recvEof =>
    all_goals rw [recvFail_eq]; exact ⟨rfl, rfl, ⟨[], by simp⟩, fun _ => List.mem_append_left _⟩
  all_goals exact ⟨rfl, rfl, ⟨[], by simp⟩, fun _ => id⟩

theorem Fifo.frame (h : Fifo s) (hw : s'.w = s.w) (hwr : s'.wrote = s.wrote) {l : List Msg} (hq : s'.q = s.q ++ l)
    (he : s'.enq = s.enq ++ l) (hr : ∀ rep ∈ s.ioRep, rep ∈ s'.ioRep) : Fifo s' := by
  -- every equation of `Fifo` reads: the lines written, then what the writer holds or consumed last, then the queue, are the log
  have app : ∀ X Y : List Msg, X ++ (Y ++ s.q) = s.enq → X ++ (Y ++ s'.q) = s'.enq := fun X Y e => by
    simp only [hq, he, ← e, List.append_assoc]
  unfold Fifo at *
  rw [hw, hwr]
  cases hw0 : s.w <;> simp only [hw0] at h ⊢
  · exact app _ [] h
  · exact app _ [_] h
  · exact h.imp (app _ [_]) fun ⟨⟨n, e⟩, rep, hm, hwho⟩ => ⟨⟨n, app _ [_] e⟩, rep, hr rep hm, hwho⟩

theorem Fifo.step (h : Fifo s) (st : Step s act s') : Fifo s' := by
  by_cases ha : act = .wr
  · subst ha
    unfold Fifo at h ⊢
    cases st with
    | getPill rest hw hq => rw [hw, hq] at h; exact .inl h
    | getLine n rest hw hq => rw [hw, hq] at h; exact h
    | send n hw => rw [hw] at h; simpa using h
    -- the failing write: the line in hand is the one consumed, and the writer has just reported
    | sendFail n hw => rw [hw] at h; rw [report_eq]; exact .inr ⟨⟨n, h⟩, _, List.mem_concat_self, rfl⟩
  · obtain ⟨h1, h2, ⟨l, h3, h4⟩, h5⟩ := st.wr_frame ha
    exact h.frame h1 h2 h3 h4 h5

end

theorem inv_init (hnd : Hnd) (failAt : Option Nat) (closes : Nat) (inbound : List (List Req)) (peerFault : Bool) :
    Inv hnd failAt peerFault (init hnd failAt closes inbound peerFault) :=
  ⟨by constructor <;> simp [init], by constructor <;> simp [init], by simp [Fifo, init]⟩

theorem inv_step {hnd failAt peerFault} {s s' : St} {act : Act} (h : Inv hnd failAt peerFault s)
    (hs : step s act = some s') : Inv hnd failAt peerFault s' :=
  have st := (Step.of_step hs).2
  ⟨h.a.step st, h.c.step h.a st, h.fifo.step st⟩

theorem inv_reach {hnd failAt closes inbound peerFault} {s : St}
    (h : Reach (init hnd failAt closes inbound peerFault) s) : Inv hnd failAt peerFault s := by
  induction h with
  | refl => exact inv_init ..
  | step a _ hs ih => exact inv_step ih hs

end Ari.AppClose
