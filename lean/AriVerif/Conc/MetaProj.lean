import AriVerif.Conc.MetaStep
import AriVerif.Conc.PoolLemmas
/-
  Conc/MetaProj.lean — the whole-Metadata-server model of the co-simulation (`Conc/MetaSrv.lean`) projects
  onto the worker-pool machine (`Conc/Pool.lean`): every step of `mstep` changes the pool component by a
  (possibly empty) run of `pstep` actions, so the pool of every reachable server state is pool-reachable and
  the C04 / C18 theorems (stated over `prun`) apply to the model the real server is compared with chunk by
  chunk.  On top: the send queue is FIFO without loss or duplication (`pending` grows exactly by the lines
  enqueued) — except that a failing write loses exactly the one message the writer holds (`mstep_fifo_sendFail`,
  `mreach_pending_lost`) —, every reply of the pool is in it, and the reader hands each decodable request to the pool once.
-/
namespace Ari.Conc

/-- the state the driver starts a Metadata co-simulation in. -/
def MInit (cfg : SrvCfg) (n : Nat) : MState := { cfg := cfg, pool := { n := n }, rst := { keepAlive := (0, 0) } }

/-- reachability, with the ghost log of every line any thread enqueued so far (in enqueue order). -/
inductive MReach (cfg : SrvCfg) (n : Nat) : MState → List String → Prop
  | init : MReach cfg n (MInit cfg n) []
  | step {s s' : MState} {log : List String} {env : InitEnv} {tid : String} {op : MOp} {effs : List MEff} :
      MReach cfg n s log → mstep s env tid op = some (s', effs) → MReach cfg n s' (log ++ enqs effs)

/-- what the writer has written, holds, or will take, in order. -/
def pending (s : MState) : List String := s.written ++ s.wsend.toList ++ s.sendQ.filterMap id

/-- tasks the reader still owes the pool (actions parked behind a reply it is about to enqueue). -/
def owed (s : MState) : List PTask := s.rq.filterMap submitTask

theorem pstep_submit (p : PState) (rid m : String) (a : Args) :
    pstep p (.submit rid m a) =
      some ({ p with tasks := p.tasks ++ [{ rid := rid, method := m, args := a }],
                     workQ := p.workQ ++ [p.tasks.length] }, []) := rfl

theorem prun_submits (p : PState) (pre : List RAct) :
    ∃ pa, prun p pa = some (addTasks p (pre.filterMap submitTask)) := by
  induction pre generalizing p with
  | nil => exact ⟨[], by simp [prun, addTasks]⟩
  | cons a pre ih =>
    rw [List.filterMap_cons]
    cases ha : submitTask a with
    | none => exact ih p
    | some t =>
      obtain ⟨m, id, toks, ar, rfl, rfl⟩ : ∃ m id toks ar, a = .submit m id toks ∧ t = { rid := id, method := m, args := ar } := by
        unfold submitTask at ha
        split at ha
        · split at ha <;> cases ha; exact ⟨_, _, _, _, rfl, rfl⟩
        · cases ha
      obtain ⟨pa, hpa⟩ := ih (addTasks p [{ rid := id, method := m, args := ar }])
      refine ⟨.submit id m ar :: pa, ?_⟩
      have e : prun p (.submit id m ar :: pa) = prun (addTasks p [{ rid := id, method := m, args := ar }]) pa := rfl
      rw [e, hpa, addTasks_addTasks]
      rfl

/-- `runLocal` only submits: its pool is reached by a run of `submit` actions, and the tasks created are
    exactly those of the actions before the next reply; the others stay owed. -/
theorem RunsLocal.pool {s : MState} {acts : List RAct} {p' : PState} {rq' : List RAct} {e : List MEff}
    (h : RunsLocal s acts p' rq' e) :
    (∃ pa, prun s.pool pa = some p') ∧
    p'.tasks ++ rq'.filterMap submitTask = s.pool.tasks ++ acts.filterMap submitTask ∧
    p'.out = s.pool.out ∧ enqs e = [] := by
  obtain ⟨pre, hl⟩ := h.spec
  obtain rfl := hl.pool
  refine ⟨prun_submits _ _, by rw [hl.split]; simp [addTasks], rfl, ?_⟩
  refine List.filterMap_eq_nil_iff.2 fun x hx => ?_
  rcases h.effs hx with ⟨n, rfl⟩ | rfl <;> rfl

theorem peffLines_advEff (t : PTask) : peffLines (advEff t) = [] := by
  rcases advEff_cases t with h | ⟨h, -⟩ <;> rw [h] <;> rfl

theorem pstep_proj {p p' : PState} {a : PAct} {pe : List PEff} (h : pstep p a = some (p', pe))
    (hns : ∀ r m ar, a ≠ .submit r m ar) :
    p'.tasks.map (fun t => (t.rid, t.method, t.args)) = p.tasks.map (fun t => (t.rid, t.method, t.args)) ∧
    ((p'.out = p.out ∧ peffLines pe = []) ∨ ∃ l, p'.out = p.out ++ [l] ∧ peffLines pe = [l]) := by
  cases PStep.of_pstep h with
  | submit rid m args => exact absurd rfl (hns rid m args)
  | start ht hp hq hr => exact ⟨map_set_of_eq ht (advTask_key _), .inl ⟨rfl, peffLines_advEff _⟩⟩
  | callBegin ht hp => exact ⟨map_set_of_eq ht rfl, .inl ⟨rfl, rfl⟩⟩
  | callEnd o ht hp =>
    exact ⟨map_set_of_eq ht (advTask_key _), .inl ⟨rfl, (List.filterMap_cons_none rfl).trans (peffLines_advEff _)⟩⟩
  | put ht hp => exact ⟨map_set_of_eq ht rfl, .inr ⟨_, rfl, rfl⟩⟩

theorem enqs_ioEffects (cfg : SrvCfg) : enqs (ioEffects cfg) = [] := by
  simp only [ioEffects, onIoException]
  cases cfg.ioHandler with
  | none => rfl
  | some r => cases r <;> rfl

theorem mem_ioEffects {cfg : SrvCfg} {e : MEff} (h : e ∈ ioEffects cfg) : e = .ioHandler ∨ e = .exit := by
  simp only [ioEffects, onIoException] at h
  cases hh : cfg.ioHandler with
  | none => rw [hh] at h; simp at h; exact .inr h
  | some r =>
    rw [hh] at h
    cases r <;> simp at h
    · exact .inl h
    · exact h

theorem mstep_pool {s s' : MState} {env : InitEnv} {tid : String} {op : MOp} {effs : List MEff}
    (h : mstep s env tid op = some (s', effs)) : ∃ pa, prun s.pool pa = some s'.pool := by
  cases mstep_kind h with
  | rRecv _ _ _ hrun | rPut _ _ hrun => exact hrun.pool.1
  | @pool _ _ _ a _ _ _ _ hp => exact ⟨[a], by simp [prun, hp]⟩
  | _ => exact ⟨[], rfl⟩

theorem mreach_pool {cfg : SrvCfg} {n : Nat} {s : MState} {log : List String} (h : MReach cfg n s log) :
    ∃ acts, prun { n := n } acts = some s.pool := by
  induction h with
  | init => exact ⟨[], rfl⟩
  | step _ hs ih =>
    obtain ⟨acts, ha⟩ := ih
    obtain ⟨pa, hpa⟩ := mstep_pool hs
    exact ⟨acts ++ pa, by rw [prun_append, ha]; exact hpa⟩

theorem mreach_pinv {cfg : SrvCfg} {n : Nat} {s : MState} {log : List String} (h : MReach cfg n s log) : PInv s.pool :=
  PReach.inv (mreach_pool h)

theorem mstep_fifo_cases {s s' : MState} {env : InitEnv} {tid : String} {op : MOp} {effs : List MEff}
    (h : mstep s env tid op = some (s', effs)) :
    pending s' = pending s ++ enqs effs ∨
    (op = .sendFail ∧ s.wthr ≠ 4 ∧ s'.wthr = 4 ∧ enqs effs = [] ∧ ∃ m, s.wsend = some m ∧ s'.wsend = none ∧
      s'.written = s.written ∧ s'.sendQ = s.sendQ) := by
  cases mstep_kind h with
  | wFail hw hws => exact .inr ⟨rfl, hw.2.2, rfl, enqs_ioEffects _, _, hws, rfl, rfl, rfl⟩
  | rFail => exact .inl (by rw [enqs_ioEffects]; simp [pending, ioReport])
  | rRecv _ _ _ hrun => exact .inl (by rw [hrun.pool.2.2.2, List.append_nil]; rfl)
  | rPut _ _ hrun =>
    have h5 := hrun.pool.2.2.2
    exact .inl (by simp [pending, enqs] at h5 ⊢; exact h5)
  | pool => exact .inl (by rw [enqs_liftPEffs]; simp [pending])
  | _ => exact .inl (by simp [pending, enqs, *])

/-- **send queue is FIFO, lossless, duplicate-free.** A step — other than a failing write, see `mstep_fifo_sendFail` —
    appends exactly the lines it enqueues, in order, to written ++ held ++ queued. -/
theorem mstep_fifo {s s' : MState} {env : InitEnv} {tid : String} {op : MOp} {effs : List MEff}
    (h : mstep s env tid op = some (s', effs)) (hop : op ≠ .sendFail) : pending s' = pending s ++ enqs effs := by
  rcases mstep_fifo_cases h with h | ⟨h, -⟩
  · exact h
  · exact absurd h hop

/-- **a failing write loses exactly the message in the writer's hand**, nothing else: what was written and what is queued
    stay as they are (and nothing is enqueued). -/
theorem mstep_fifo_sendFail {s s' : MState} {env : InitEnv} {effs : List MEff}
    (h : mstep s env "W" .sendFail = some (s', effs)) :
    ∃ m, s.wsend = some m ∧ pending s = s.written ++ m :: s.sendQ.filterMap id ∧
      pending s' = s.written ++ s.sendQ.filterMap id ∧ enqs effs = [] := by
  generalize hW : "W" = tid at h
  cases mstep_kind h with
  | wFail _ hws => exact ⟨_, hws, by simp [pending, hws], by simp [pending, ioReport], enqs_ioEffects _⟩
  | pool _ ha => cases ha

theorem mstep_pool_out {s s' : MState} {env : InitEnv} {tid : String} {op : MOp} {effs : List MEff}
    (h : mstep s env tid op = some (s', effs)) :
    s'.pool.out = s.pool.out ∨ ∃ l, s'.pool.out = s.pool.out ++ [l] ∧ enqs effs = [l] := by
  cases mstep_kind h with
  | rRecv _ _ _ hrun | rPut _ _ hrun => exact .inl hrun.pool.2.2.1
  | pool _ ha hp =>
    rw [enqs_liftPEffs]
    rcases (pstep_proj hp (poolAct_ne_submit ha)).2 with ⟨h1, -⟩ | ⟨l, h1, h2⟩
    · exact .inl h1
    · exact .inr ⟨l, h1, h2⟩
  | _ => exact .inl rfl

/-- the writer thread does not exist before the starting thread created it (`hm`, an invariant); hence a writer dead on a
    failed write stays dead — the starting thread's first step, which creates the writer, comes before —, and nobody else
    touches what it wrote and held. -/
theorem mstep_wframe {s s' : MState} {env : InitEnv} {tid : String} {op : MOp} {effs : List MEff}
    (hm : s.mpc = 0 → s.wthr = 0) (h : mstep s env tid op = some (s', effs)) :
    (s'.mpc = 0 → s'.wthr = 0) ∧ (s.wthr = 4 → s'.wthr = 4 ∧ s'.written = s.written ∧ s'.wsend = s.wsend) := by
  cases mstep_kind h with
  | mStart hm0 => exact ⟨fun h => (by cases h), fun h4 => by have := hm hm0; omega⟩
  | mPut => exact ⟨fun h => (by cases h), fun h4 => ⟨h4, rfl, rfl⟩⟩
  | wStart h1 => exact ⟨fun h => by have := hm h; omega, fun h4 => by omega⟩
  | wGet hw | wPill hw | wSend hw | wFail hw => exact ⟨fun h => by have := hm h; omega, fun h4 => absurd h4 hw.2.2⟩
  | _ => exact ⟨hm, fun h4 => ⟨h4, rfl, rfl⟩⟩

/-- **the send queue neither duplicates nor reorders, and loses at most the one message a failed write had in hand**: the
    log of everything enqueued so far is written ++ lost ++ held ++ queued, where `lost` is empty unless a write has failed
    (`wthr = 4`), and then has at most one element.  (Also: the writer thread does not exist before the starting thread
    created it.) -/
theorem mreach_pending_lost {cfg : SrvCfg} {n : Nat} {s : MState} {log : List String} (h : MReach cfg n s log) :
    (s.mpc = 0 → s.wthr = 0) ∧
    ∃ lost : List String, lost.length ≤ 1 ∧ (s.wthr ≠ 4 → lost = []) ∧
      log = s.written ++ lost ++ s.wsend.toList ++ s.sendQ.filterMap id := by
  induction h with
  | init => exact ⟨fun _ => rfl, [], by simp, fun _ => rfl, rfl⟩
  | @step s s' log env tid op effs _ hs ih =>
    obtain ⟨hm, hl⟩ := ih
    have hl : SendLog log s.written s.wsend.toList (s.sendQ.filterMap id) (s.wthr = 4) := hl
    obtain ⟨hm', hf⟩ := mstep_wframe hm hs
    refine ⟨hm', ?_⟩
    rcases mstep_fifo_cases hs with hp | ⟨-, h4, h4', he, m, hm1, hm2, hwr, hq⟩
    · exact hl.append hp fun hw4 => ⟨(hf hw4).1, (hf hw4).2.1, by rw [(hf hw4).2.2]⟩
    · -- the failing write: nothing is enqueued, the message in hand is dropped
      rw [he, List.append_nil, hwr, hq, hm2]
      rw [hm1] at hl
      exact hl.drop h4 h4'

/-- **the send queue neither loses, duplicates nor reorders** as long as no write has failed: written ++ held ++ queued is
    exactly the log of everything enqueued so far.  (After a failed write exactly the message the writer held is missing:
    `mstep_fifo_sendFail`, `mreach_pending_lost`.) -/
theorem mreach_pending {cfg : SrvCfg} {n : Nat} {s : MState} {log : List String} (h : MReach cfg n s log)
    (hw : s.wthr ≠ 4) : pending s = log :=
  SendLog.pending (mreach_pending_lost h).2 hw

/-- **what is written is a prefix of what was enqueued, in enqueue order** (failed write or not). -/
theorem mreach_written_prefix {cfg : SrvCfg} {n : Nat} {s : MState} {log : List String} (h : MReach cfg n s log) :
    s.written <+: log :=
  SendLog.written_prefix (mreach_pending_lost h).2

/-- **every reply the pool produced was enqueued, in the pool's order.** -/
theorem mreach_out_sublist {cfg : SrvCfg} {n : Nat} {s : MState} {log : List String} (h : MReach cfg n s log) :
    s.pool.out.Sublist log := by
  induction h with
  | init => exact List.nil_sublist _
  | step _ hs ih =>
    rcases mstep_pool_out hs with h1 | ⟨l, h1, h2⟩
    · rw [h1]; exact ih.trans (List.sublist_append_left _ _)
    · rw [h1, h2]; exact List.Sublist.append ih (List.Sublist.refl _)

/-- once the writer has drained the queue — no write having failed — every pool reply is on the wire. -/
theorem mreach_drained {cfg : SrvCfg} {n : Nat} {s : MState} {log : List String} (h : MReach cfg n s log)
    (hw4 : s.wthr ≠ 4) (hq : s.sendQ = []) (hw : s.wsend = none) : s.pool.out.Sublist s.written := by
  have h1 := mreach_out_sublist h
  rw [← mreach_pending h hw4] at h1
  simpa [pending, hq, hw] using h1

/-- **the reader hands every decodable request to the pool exactly once, in line order**: after a step the
    tasks created plus those still owed are the previous ones plus the step's newly dispatched requests.
    (The one exception is the last step of `close()`, `.poolWait`, after which the reader has left its loop: whatever
    followed the honoured close request in the same read is dropped — see `mstep_tasks_closed`.) -/
theorem mstep_tasks {s s' : MState} {env : InitEnv} {tid : String} {op : MOp} {effs : List MEff}
    (h : mstep s env tid op = some (s', effs)) (hop : op ≠ .poolWait) :
    (s'.pool.tasks.map (fun t => (t.rid, t.method, t.args)) ++ (owed s').map (fun t => (t.rid, t.method, t.args)) =
      s.pool.tasks.map (fun t => (t.rid, t.method, t.args)) ++ (owed s).map (fun t => (t.rid, t.method, t.args)) ++
        (if tid = "R" ∧ 2 ≤ s.rthr ∧ s.rq = [] then
          match op, s.inbound with
          | .recv, c :: _ =>
            ((dispatchAll s.cfg env s.rst (feed s.rbuf c).1).2.flatten.filterMap submitTask).map
              (fun t => (t.rid, t.method, t.args))
          | _, _ => []
         else [])) := by
  have key : ∀ {s0 : MState} {acts : List RAct} {p' : PState} {rq' : List RAct} {e : List MEff},
      RunsLocal s0 acts p' rq' e →
      p'.tasks.map (fun t => (t.rid, t.method, t.args)) ++
        (rq'.filterMap submitTask).map (fun t => (t.rid, t.method, t.args)) =
      s0.pool.tasks.map (fun t => (t.rid, t.method, t.args)) ++
        (acts.filterMap submitTask).map (fun t => (t.rid, t.method, t.args)) := fun h => by
    rw [← List.map_append, h.pool.2.1, List.map_append]
  -- the reader is not at the top of its loop
  have busy : ∀ {a : RAct} {rest : List RAct}, s.rq = a :: rest → ¬ (tid = "R" ∧ 2 ≤ s.rthr ∧ s.rq = []) :=
    fun hrq h => by rw [hrq] at h; cases h.2.2
  cases mstep_kind h with
  | rRecv hr hrq hin hrun =>
    rw [if_pos ⟨rfl, hr.1, hrq⟩, hin]
    simp only [owed, hrq, List.filterMap_nil, List.map_nil, List.append_nil]
    exact (key hrun).trans rfl
  | rPut _ hrq hrun =>
    rw [if_neg (busy hrq), List.append_nil]
    simp only [owed, hrq]
    exact (key hrun).trans rfl
  | rQuit _ hrq => rw [if_neg (busy hrq), List.append_nil]; simp only [owed, hrq, List.filterMap_cons, submitTask]
  | rJoin _ hrq => rw [if_neg (busy hrq), List.append_nil]; rfl
  | rPoolWait => exact absurd rfl hop
  | rFail hr hrq hin => rw [if_pos ⟨rfl, hr.1, hrq⟩, hin, List.append_nil]; rfl
  | rStart h1 => rw [if_neg (by omega), List.append_nil]; rfl
  | pool hT ha hp =>
    rw [if_neg (fun h => hT.other.ne_R h.1), List.append_nil]
    simp only [owed]
    rw [(pstep_proj hp (poolAct_ne_submit ha)).1]
  | _ => rw [if_neg (fun h => by simp at h), List.append_nil]; rfl

/-- the last step of `close()`: the pool keeps its tasks; whatever the reader still owed is dropped (it has left its
    loop). -/
theorem mstep_tasks_closed {s s' : MState} {env : InitEnv} {tid : String} {effs : List MEff}
    (h : mstep s env tid .poolWait = some (s', effs)) : s'.pool = s.pool ∧ owed s' = [] := by
  cases mstep_kind h with
  | rPoolWait => exact ⟨rfl, rfl⟩
  | pool _ ha => cases ha

end Ari.Conc
