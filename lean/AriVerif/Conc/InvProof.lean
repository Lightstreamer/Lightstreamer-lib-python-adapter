import AriVerif.Conc.InvSem
import AriVerif.Conc.ItemStep
/-
  Conc/InvProof.lean — `Inv` is inductive.  Each branch of `IStep` is a frame lemma on `Core`, an equation for
  `view` and a transition of the view preserving `Sem`, put together by `Inv.of_parts`; the wrappers
  `addLog` / `addOut` of the post-states vanish in `core` and `view` by computation (`rfl`).
-/
namespace Ari.Conc

theorem Pc.of_held {p : Pc} {t : Task} (h : p.held = some t) : p.looping = true ∧ p.between = false := by
  cases p <;> first | exact ⟨rfl, rfl⟩ | cases h

theorem Pc.wf_put {t : Task} {l : String} {n : Pc} (h : (Pc.put t l n).wf = true) (hn : n ≠ .atLoop)
    (hc : ∀ t', n ≠ .clearCode t') : n = .callBegin .sub t ∧ t.isSub = true := by
  cases n <;> (try cases ‹AMethod›) <;> simp_all [Pc.wf]

/-- `Pc.wf` of a continuation `callBegin .sub t` / `clearCode t` of the task `t` itself. -/
theorem Pc.wf_and_self {b : Bool} {t : Task} : (b && decide (t = t)) = b := by simp

structure Holds (s : IState) (k : Nat) : Prop where
  looping : (s.insts k).pc.looping = true
  isCur : cur s = some k
  active : s.active = some (s.insts k).gen
  deq : 1 ≤ (s.insts k).deq
  ok : (view s).ok = (s.insts k).ok

theorem Inv.holder {s : IState} (h : Inv s) {k : Nat} (hk : k < s.ninst) {t : Task}
    (hh : (s.insts k).pc.held = some t) : Holds s k :=
  have ⟨hl, hnb⟩ := Pc.of_held hh
  have hc := h.struct.cur_of_looping hk hl
  ⟨hl, hc, h.struct.active_of_looping hk hl, h.heldDeq k hk hl hnb, h.struct.ok_cur hc hnb⟩

/-- the looping instance `k`, at `p` and holding a task, moves on to `p'` with outcome `o`; the ghost fields are
    those of the target state `s'`.  `hcore` and `hview` hold by computation (`rfl`) at each use, and `hcore` fixes
    `p'` and `o`; `hh` and `hl` are computations on the two program counters.  `b` is the outcome the view shows
    afterwards: `hok` derives it from the instance's new `o`, given that the two agreed before. -/
theorem Inv.hold {s s' : IState} (h : Inv s) {k : Nat} (hk : k < s.ninst) {p p' : Pc} (hpc : (s.insts k).pc = p)
    {t : Task} {o b : Bool}
    (hcore : core s' = core (setInst s k { s.insts k with pc := p', ok := o }))
    (hview : view s' = { view (setInst s k { s.insts k with pc := p', ok := o }) with
      fin := s'.fin, repl := s'.repl, lastInv := s'.lastInv, fwd := s'.fwd })
    (hlsn : ∀ m t, p = .inCall m t → (s.insts k).lsn = none)
    (hwf : p.wf = true → p'.wf = true) (hok : (view s).ok = (s.insts k).ok → o = b)
    (hV : (view s).pc = some p → p.wf = true → (view s).act = true →
      Sem { view s with pc := some p', ok := b, fin := s'.fin, repl := s'.repl, lastInv := s'.lastInv,
                        fwd := s'.fwd })
    (hh : p.held = some t := by rfl) (hl : p'.looping = true := by rfl) : Inv s' := by
  subst hpc
  have hH := h.holder hk hh
  have hw := h.pcWf k hk
  refine .of_parts (hcore ▸ h.struct.setInst hk hH.looping hl (fun _ => hH.deq)
    (fun hn => let ⟨m, t, e⟩ := h.lsnInCall k hk hn; absurd (hlsn m t e) hn) (hwf hw)) ?_
  rw [hview, view_setInst _ hH.isCur,
    effOk_setInst_pos (i := { s.insts k with pc := p', ok := o }) hH.isCur hH.deq, hok hH.ok]
  exact hV (view_pc hH.isCur) hw (by simp [view, hH.active])

/-- `Inv.hold` for a step that also publishes or clears the id (`c`) of the instance's generation. -/
theorem Inv.holdCode {s s' : IState} (h : Inv s) {k : Nat} (hk : k < s.ninst) {p p' : Pc}
    (hpc : (s.insts k).pc = p) {t : Task} (c : Option String)
    (hcore : core s' = core (setInst (setMgr s (s.insts k).gen { s.mgrAt k with code := c }) k
      { s.insts k with pc := p' }))
    (hview : view s' = { view (setInst (setMgr s (s.insts k).gen { s.mgrAt k with code := c }) k
      { s.insts k with pc := p' }) with fin := s'.fin, execd := s'.execd, cleared := s'.cleared })
    (hnc : ∀ m t, p ≠ .inCall m t) (hwf : p.wf = true → p'.wf = true)
    (hV : (view s).pc = some p → p.wf = true →
      Sem { view s with pc := some p', code := c, fin := s'.fin, execd := s'.execd, cleared := s'.cleared })
    (hh : p.held = some t := by rfl) (hl : p'.looping = true := by rfl) : Inv s' := by
  subst hpc
  have hH := h.holder hk hh
  have hw := h.pcWf k hk
  have hpos : 0 < (s.mgrs (s.insts k).gen).queued := by
    have := (h.struct.gen _ (h.genLt k hk)).counter
    simp only [core, Mgr.loopDeq, h.loopOf k hk hH.looping] at this
    have := hH.deq
    omega
  have hc' : cur (setMgr s (s.insts k).gen { s.mgrAt k with code := c }) = some k :=
    (cur_setMgr { s.mgrAt k with code := c } rfl).trans hH.isCur
  refine .of_parts (hcore ▸ (h.struct.setCode c hH.active fun _ => hpos).setInst hk hH.looping hl
    (fun _ => hH.deq) (absurd (h.lsn_none hk hnc)) (hwf hw)) ?_
  rw [hview, view_setInst _ hc', effOk_setInst_pos (i := { s.insts k with pc := p' }) hc' hH.deq,
    view_setCode hH.active, ← hH.ok]
  exact hV (view_pc hH.isCur) hw

theorem Inv.lsn {s s' : IState} (h : Inv s) {k : Nat} (hk : k < s.ninst) {m : AMethod} {t : Task}
    (hpc : (s.insts k).pc = .inCall m t) {l : Option String}
    (hcore : core s' = core (setInst s k { s.insts k with lsn := l }))
    (hview : view s' = view (setInst s k { s.insts k with lsn := l })) : Inv s' :=
  have hh : (s.insts k).pc.held = some t := by rw [hpc]; rfl
  have hH := h.holder hk hh
  .of_parts (hcore ▸ h.struct.setInst hk hH.looping hH.looping (fun _ => hH.deq)
      (fun _ => ⟨m, t, hpc⟩) (h.pcWf k hk))
    (by rw [hview, view_setInst _ hH.isCur,
          effOk_setInst_same (i := { s.insts k with lsn := l }) hH.isCur rfl rfl]
        exact view_pc hH.isCur ▸ h.sem)

structure AtLoop (s : IState) (k : Nat) : Prop where
  active : s.active = some (s.insts k).gen
  pc : (view s).pc = some .atLoop
  q : (view s).q = (s.mgrAt k).q
  ok : s.okAt k = (view s).ok

theorem Inv.atLoop {s : IState} (h : Inv s) {k : Nat} (hk : k < s.ninst) (hpc : (s.insts k).pc = .atLoop) :
    AtLoop s k := by
  have hl : (s.insts k).pc.looping = true := by rw [hpc]; rfl
  have ha : s.active = some (s.insts k).gen := h.struct.active_of_looping hk hl
  have hc := h.struct.cur_of_looping hk hl
  refine ⟨ha, hpc ▸ view_pc hc, by simp [view, qL, ha], ?_⟩
  show _ = effOk s
  rw [effOk_cur hc, ha]

/-- `late` is that of the target state `s'`; `hcore`, `hview` as for `Inv.hold`. -/
theorem Inv.popCur {s s' : IState} (h : Inv s) {k : Nat} (hk : k < s.ninst) (hpc : (s.insts k).pc = .atLoop)
    {t : Task} {rest : List Task} (hq : (s.mgrAt k).q = t :: rest) {o : Bool} {p' : Pc}
    (hcore : core s' = core (setInst (setMgr s (s.insts k).gen { s.mgrAt k with q := rest }) k
      { s.insts k with ok := o, deq := (s.insts k).deq + 1, pc := p' }))
    (hview : view s' = { view (setInst (setMgr s (s.insts k).gen { s.mgrAt k with q := rest }) k
      { s.insts k with ok := o, deq := (s.insts k).deq + 1, pc := p' }) with late := s'.late })
    (hwf : p'.wf = true)
    (hV : (view s).pc = some .atLoop → (view s).q = t :: rest → s.okAt k = (view s).ok →
      Sem { view s with pc := some p', ok := o, q := rest, late := s'.late })
    (hl' : p'.looping = true := by rfl) : Inv s' := by
  have hl : (s.insts k).pc.looping = true := by rw [hpc]; rfl
  have hL := h.atLoop hk hpc
  have hc' : cur (setMgr s (s.insts k).gen { s.mgrAt k with q := rest }) = some k :=
    (cur_setMgr { s.mgrAt k with q := rest } rfl).trans (h.struct.cur_of_looping hk hl)
  refine .of_parts (hcore ▸ h.struct.pop hk hl hq (h.lsn_none hk (by rw [hpc]; nofun)) hl' hwf) ?_
  rw [hview, view_setInst _ hc', effOk_setInst_pos hc' (Nat.le_add_left 1 _), view_setQ hL.active]
  exact hV hL.pc (hL.q.trans hq) hL.ok

theorem Inv.decLe {s : IState} (h : Inv s) {k : Nat} (hk : k < s.ninst) (hpc : (s.insts k).pc = .dec) :
    cur s ≠ some k ∧ (((s.mgrs (s.insts k).gen).q.length + (s.mgrs (s.insts k).gen).loopDeq s.insts +
      rhCount s.rheld (s.insts k).gen + (s.insts k).deq : Nat) : Int) ≤ (s.mgrs (s.insts k).gen).queued := by
  have hc := (h.struct.gen _ (h.genLt k hk)).counter
  have hle := decI_le_sumDec (insts := s.insts) (s.insts k).gen hk
  simp only [decI, hpc, if_true] at hle
  simp only [core] at hc
  exact ⟨fun hc => absurd (h.struct.cur_looping hc).2 (by rw [hpc]; nofun), by omega⟩

theorem inv_init (item : String) : Inv (IState.init item) := by
  constructor <;>
    simp [IState.init, cur, heldL, qL, rheldL, readCode]

theorem inv_step (s s' : IState) (a : IAct) (e : List Eff) (h : Inv s)
    (hs : istep s a = some (s', e)) (hwf : WF s'.arr) : Inv s' := by
  rw [istep_arr hs] at hwf
  have hwf0 : WF s.arr := wf_append hwf
  cases IStep.of_istep hs with
  | lockMgr_active hr ha =>
    exact .of_parts (h.struct.arrive _ ha hr) (view_arrive _ ha ▸ h.sem.arrive (by simp [view, rheldL, hr]) hwf)
  | lockMgr_fresh hr ha =>
    exact .of_parts (h.struct.arriveFresh _ ha hr)
      (view_arriveFresh ha ▸ h.sem.arriveFresh (by simp [view, rheldL, hr]) hwf)
  | lockMgr_noMgr hr ha ht =>
    refine (h.sem.noMgr_absurd ?_ ?_ ?_ ?_ ht hwf).elim <;> simp [view, cur, qL, rheldL, ha, hr]
  | addTask_running hr hrun =>
    exact .of_parts (h.struct.addTask hr hrun)
      (view_addTask (h.rheldActive _ _ hr) ▸ h.sem.addTask (by simp [view, rheldL, hr]))
  | @addTask_submit t g hr hrun =>
    have ha := h.rheldActive t g hr
    have hl : (s.mgrs g).loop = none := by simpa [hrun] using h.running g (h.activeLt g ha)
    exact .of_parts (h.struct.submit hr hrun)
      (view_submit ha hl ▸ h.sem.submit (by simp [view, rheldL, hr]) (by simp [view, cur, ha, hl]))
  | @start k hk hpc =>
    have hl : (s.insts k).pc.looping = true := by rw [hpc]; rfl
    have hc := h.struct.cur_of_looping hk hl
    refine .of_parts (h.struct.setInst hk hl (p' := .atLoop) rfl nofun
      (absurd (h.lsn_none hk (by rw [hpc]; nofun))) rfl) ?_
    rw [view_setInst _ hc, effOk_setInst_same (i := { s.insts k with pc := .atLoop }) hc rfl rfl]
    exact h.sem.move (hpc ▸ view_pc hc)
  | pop_nil hk hpc hq =>
    have hL := h.atLoop hk hpc
    exact .of_parts (h.struct.exit _ _ hk hpc hq)
      (view_exit hL.active hL.ok _ ▸ h.sem.move hL.pc)
  | pop_late hk hpc hq ht hrest =>
    exact h.popCur hk hpc hq rfl rfl (hwf := ht) fun hp hq _ => h.sem.pop_late hwf0 hp hq ht hrest _
  | pop_sub hk hpc hq ht =>
    exact h.popCur hk hpc hq rfl rfl (hwf := ht) fun hp hq ho =>
      ho ▸ h.sem.pop hwf0 hp hq (hu := ⟨nofun, fun ⟨e, _⟩ => nomatch ht.symm.trans e⟩)
  | pop_usb hk hpc hq ht hok =>
    exact h.popCur hk hpc hq rfl rfl (hwf := by simp [Pc.wf, ht]) fun hp hq ho =>
      hok ▸ ho ▸ h.sem.pop hwf0 hp hq (hu := ⟨fun _ => ⟨ht, ho.symm.trans hok⟩, fun _ => ⟨_, rfl⟩⟩)
  | pop_usb_skip hk hpc hq ht hok =>
    exact h.popCur hk hpc hq rfl rfl (hwf := by simp [Pc.wf, ht]) fun hp hq ho =>
      hok ▸ ho ▸ h.sem.pop hwf0 hp hq (hu := ⟨nofun, fun ⟨_, e⟩ => nomatch (ho.symm.trans hok).symm.trans e⟩)
  | put_loop hk hpc =>
    -- the wrappers are unfolded first: `rfl` against `finish (replied (addLog (addOut …)))` first tries to unify
    -- the states themselves, field by field, and fails slowly
    simp only [finish, replied, addLog, addOut]
    exact h.hold hk hpc rfl rfl (hlsn := nofun) (hwf := fun _ => rfl) (hok := Eq.symm) fun hp hw ha =>
      h.sem.put_loop hp hw ha hwf0
  | @put_clear k t line t' hk hpc =>
    have hw := h.pcWf k hk
    rw [hpc] at hw
    obtain ⟨hw, rfl⟩ : t.isSub = false ∧ t' = t := by simpa [Pc.wf] using hw
    simp only [replied, addLog, addOut]
    exact h.hold hk hpc rfl rfl (hlsn := nofun) (hwf := fun _ => by simp [Pc.wf, hw]) (hok := Eq.symm) fun hp _ _ =>
      h.sem.put_clear hp hwf0
  | @put_other k t line next hk hpc hn hc =>
    obtain ⟨rfl, ht⟩ := Pc.wf_put (hpc ▸ h.pcWf k hk) hn hc
    exact h.hold hk hpc rfl rfl (hlsn := nofun) (hwf := fun _ => ht) (hok := Eq.symm) fun hp _ _ =>
      h.sem.move hp
  | setCode hk hpc =>
    exact h.holdCode hk hpc (some _) rfl rfl (hnc := nofun) (hwf := id) fun hp hw => h.sem.setCode hp hw hwf0
  | clearCode hk hpc =>
    exact h.holdCode hk hpc none rfl rfl (hnc := nofun) (hwf := fun _ => rfl) fun hp hw =>
      h.sem.clearCode hp (by simpa [Pc.wf] using hw)
  | @callBegin k m t hk hpc =>
    exact h.hold hk hpc rfl rfl (hlsn := nofun) (hwf := by cases m <;> exact id) (hok := Eq.symm) fun hp _ _ =>
      h.sem.callBegin hp
  | @callEnd_snap_ret k t isF hk hpc hl =>
    cases isF <;>
    exact h.hold hk hpc rfl rfl (hlsn := fun _ _ _ => hl) (hwf := id) (hok := Eq.symm) fun hp _ _ =>
      h.sem.move hp
  | callEnd_snap_raise hk hpc hl | callEnd_sub_raise hk hpc hl =>
    exact h.hold hk hpc rfl rfl (hlsn := fun _ _ _ => hl) (hwf := id) (hok := fun _ => rfl) fun hp hw _ =>
      h.sem.subReply false _ hp nofun hw hwf0 fun _ => rfl
  | @callEnd_sub_ret k t b hk hpc hl =>
    exact h.hold hk hpc rfl rfl (hlsn := fun _ _ _ => hl) (hwf := id) (hok := fun _ => rfl) fun hp hw _ =>
      h.sem.subReply true _ hp nofun hw hwf0 nofun
  | callEnd_usb_ret hk hpc hl | callEnd_usb_raise hk hpc hl =>
    exact h.hold hk hpc rfl rfl (hlsn := fun _ _ _ => hl) (hwf := (Pc.wf_and_self.trans ·)) (hok := Eq.symm)
      fun hp _ _ => h.sem.usbReply _ _ hp hwf0
  | eosRead_emit hk hpc =>
    exact h.hold hk hpc rfl rfl (hlsn := nofun) (hwf := (Pc.wf_and_self.trans ·)) (hok := Eq.symm) fun hp _ _ =>
      h.sem.move hp
  | eosRead_skip hk hpc =>
    exact h.hold hk hpc rfl rfl (hlsn := nofun) (hwf := id) (hok := Eq.symm) fun hp _ _ => h.sem.move hp
  | @dec_remove k hk hpc hcode hz hact =>
    simp only [IState.mgrAt] at hcode hz
    have ⟨hnc, hle⟩ := h.decLe hk hpc
    -- the counter is used up: nothing is queued, no instance loops, the reader is not between its lock sections
    have hq : (s.mgrs (s.insts k).gen).q = [] := List.eq_nil_of_length_eq_zero (by omega)
    have hloop : (s.mgrs (s.insts k).gen).loop = none := by
      rcases hl : (s.mgrs (s.insts k).gen).loop with _ | k'
      · rfl
      · exact absurd hq (h.firstPop _ (h.genLt k hk) k' hl (by simp only [Mgr.loopDeq, hl] at hle; omega))
    have hrheld : s.rheld = none := by
      rcases hr : s.rheld with _ | ⟨t, g'⟩
      · rfl
      · cases hact.symm.trans (h.rheldActive t g' hr)
        have : rhCount s.rheld (s.insts k).gen = 0 := by omega
        simp [rhCount, hr] at this
    have hv : (view s).pc = none ∧ (view s).q = [] ∧ (view s).rh = [] ∧ (view s).code = none := by
      simp [view, cur, readCode, qL, rheldL, hact, hloop, hq, hcode, hrheld]
    exact .of_parts
      (h.struct.decGen none hk hpc rfl
        (hoth := fun g hne => ⟨nofun, fun e => absurd (Option.some.inj (hact.symm.trans e)).symm hne⟩)
        (hdead := fun _ => ⟨hq, hloop, hcode, hz⟩) (hreg := nofun) (hlt := nofun)
        (hrh := fun _ _ e => nomatch hrheld.symm.trans e))
      (view_unregister hact hloop hq hcode _ _ ▸ h.sem.unregister hv.1 hv.2.1 hv.2.2.1 hv.2.2.2)
  | @dec_keep k hk hpc hc =>
    have ⟨hnc, hle⟩ := h.decLe hk hpc
    exact .of_parts
      (h.struct.decGen s.active hk hpc rfl (hoth := fun _ _ => .rfl)
        (hdead := fun ha =>
          have hd := h.dead _ (h.genLt k hk) ha
          ⟨hd.1, hd.2.1, hd.2.2.1, by have := hd.2.2.2; simp only [core]; omega⟩)
        (hreg := fun ha => (Classical.em ((s.mgrs (s.insts k).gen).code = none)).symm.imp id fun hcode => by
          have := mt (fun e => ⟨hcode, e, ha⟩) hc
          simp only [core, IState.mgrAt] at this ⊢
          omega)
        (hlt := h.activeLt) (hrh := h.rheldActive))
      (view_dec hnc _ _ _ ▸ h.sem)
  | lsnRead_inst hk hpc => exact h.lsn hk hpc rfl rfl
  | lsnPut_inst hk hl =>
    obtain ⟨_, _, hpc⟩ := h.lsnInCall _ hk (by simp [hl])
    exact h.lsn hk hpc rfl rfl
  | lsnRead_ext | lsnPut_ext => exact .of_parts h.struct h.sem

/-- the histories on the way are prefixes of the final one, so the induction carries "`Inv` if the history is
    well-formed" rather than `Inv`. -/
theorem inv_run {acts : List IAct} :
    ∀ {s s' : IState}, irun s acts = some s' → (WF s.arr → Inv s) → WF s'.arr → Inv s' := by
  induction acts with
  | nil => exact fun hr h hwf => by cases hr; exact h hwf
  | cons a acts ih =>
    intro s s' hr h
    simp only [irun] at hr
    split at hr
    · next hs => exact ih hr fun hwf => inv_step _ _ _ _ (h (wf_append (istep_arr hs ▸ hwf))) hs hwf
    · cases hr

/-- **Main invariance theorem.** Every reachable state with a well-formed request history satisfies `Inv`. -/
theorem inv_reach (item : String) (s : IState) (hr : Reach item s) (hwf : WF s.arr) : Inv s := by
  obtain ⟨acts, hrun⟩ := hr
  exact inv_run hrun (fun _ => inv_init item) hwf

end Ari.Conc
